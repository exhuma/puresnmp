/-
  `Integer.encode_raw` / `decode_raw`: the encoder's loop invariant and the round trip.
-/
import Snmp.Lemmas.BerLemmas
namespace Snmp.Ber

theorem intDecode_signed_cons (b : Nat) (rest : Bytes) :
    intDecode true (b :: rest) =
      if b < 128 then (fromBE (b :: rest) : Int) else (fromBE (b :: rest) : Int) - (256 : Int) ^ (rest.length + 1) := by
  unfold intDecode
  by_cases h : b < 128
  · have : ¬ 128 ≤ b := by omega
    simp [h, this]
  · have : 128 ≤ b := by omega
    simp [h, this]

/-- one more octet at the low end: the sign stays, the number moves up one place -/
theorem intDecode_signed_append_single (bs : Bytes) (hne : bs ≠ []) (x : Nat) :
    intDecode true (bs ++ [x]) = intDecode true bs * 256 + x := by
  cases bs with
  | nil => exact absurd rfl hne
  | cons b rest =>
    rw [List.cons_append, intDecode_signed_cons, intDecode_signed_cons, ← List.cons_append, fromBE_append_single,
      List.length_append, List.length_singleton, Int.natCast_add, Int.natCast_mul]
    split
    · rfl
    · rw [Int.pow_succ (256 : Int) (rest.length + 1), Int.sub_mul]
      exact Int.add_right_comm ..

theorem intStrip_val : ∀ (bs : Bytes), intDecode true (intStrip bs) = intDecode true bs
  | [] => rfl
  | [a] => rfl
  | a :: b :: rest => by
    unfold intStrip
    split
    · rename_i hc
      rw [intStrip_val (b :: rest), intDecode_signed_cons a, fromBE_cons a, intDecode_signed_cons b]
      rcases hc with ⟨rfl, hb⟩ | ⟨rfl, hb⟩
      · simp [hb]
      · rw [if_neg (Nat.not_lt.mpr hb), if_neg (by decide : ¬ 255 < 128), List.length_cons, Int.natCast_add, Int.natCast_mul,
          Int.natCast_pow, Int.pow_succ _ (rest.length + 1)]
        -- the octet `ff` adds `255 * P` and moves the sign's weight from `P` to `P * 256`
        generalize (256 : Int) ^ (rest.length + 1) = P
        omega
    · rfl

theorem intStrip_ne_nil : ∀ (bs : Bytes), bs ≠ [] → intStrip bs ≠ []
  | [], h => absurd rfl h
  | [a], _ => List.cons_ne_nil a []
  | a :: b :: rest, _ => by
    unfold intStrip
    split
    · exact intStrip_ne_nil (b :: rest) (List.cons_ne_nil b rest)
    · exact List.cons_ne_nil a _

theorem intLE_ne_nil (v : Int) : intLE v ≠ [] := by simp [intLE]

theorem intLE_unfold (r : Int) (h : ¬ (r = 0 ∨ r = -1)) :
    intLE r = (r % 256).toNat :: intLE (r / 256) := by
  simp only [intLE]
  rw [intLoop]
  simp [h]

/-- the loop's output, most significant octet first, is the integer in two's complement.  One octet
    of the loop is one step of `v = v / 256 * 256 + v % 256`; it stops at 0 and -1, which are `00` and `ff`. -/
theorem intLE_spec (v : Int) : intDecode true (intLE v).reverse = v := by
  induction v using intLoop.induct with
  | case1 v hb => rcases hb with rfl | rfl <;> simp [intLE, intLoop, intDecode, fromBE]
  | case2 v hb _ ih =>
    rw [intLE_unfold v hb, List.reverse_cons,
      intDecode_signed_append_single _ (by simpa using intLE_ne_nil (v / 256)), ih,
      Int.toNat_of_nonneg (Int.emod_nonneg v (by decide)), Int.ediv_mul_add_emod]

theorem intDecode_intEncode (v : Int) : intDecode true (intEncode v) = v :=
  (intStrip_val _).trans (intLE_spec v)

theorem intEncode_ne_nil (v : Int) : intEncode v ≠ [] :=
  intStrip_ne_nil _ (by simpa using intLE_ne_nil v)

/-! The encoder writes octets; hence the content of a non-negative integer starts with a clear bit. -/

theorem intStrip_suffix : ∀ (bs : Bytes), intStrip bs <:+ bs
  | [] => List.suffix_refl _
  | [a] => List.suffix_refl _
  | a :: b :: rest => by
    unfold intStrip
    split
    · exact (intStrip_suffix (b :: rest)).trans (List.suffix_cons a _)
    · exact List.suffix_refl _

theorem intLE_bytes (v : Int) : ∀ b ∈ intLE v, b < 256 := by
  induction v using intLoop.induct with
  | case1 v hb => rcases hb with rfl | rfl <;> simp [intLE, intLoop]
  | case2 v hb _ ih =>
    rw [intLE_unfold v hb, List.forall_mem_cons]
    exact ⟨by omega, ih⟩

theorem intEncode_bytes (v : Int) : ∀ b ∈ intEncode v, b < 256 :=
  fun b hb => intLE_bytes v b (List.mem_reverse.mp ((intStrip_suffix _).subset hb))

theorem fromBE_lt (bs : Bytes) (h : ∀ b ∈ bs, b < 256) : fromBE bs < 256 ^ bs.length := by
  induction bs with
  | nil => exact Nat.zero_lt_one
  | cons b rest ih =>
    obtain ⟨hb, hrest⟩ := List.forall_mem_cons.mp h
    have hr := ih hrest
    rw [fromBE_cons, List.length_cons, Nat.pow_succ]
    calc b * 256 ^ rest.length + fromBE rest
        < b * 256 ^ rest.length + 256 ^ rest.length := Nat.add_lt_add_left hr _
      _ = (b + 1) * 256 ^ rest.length := (Nat.succ_mul ..).symm
      _ ≤ 256 * 256 ^ rest.length := Nat.mul_le_mul_right _ hb
      _ = 256 ^ rest.length * 256 := Nat.mul_comm ..

/-- a non-negative integer written by the encoder is read back by the unsigned classes too -/
theorem intDecode_unsigned_intEncode (v : Int) (hv : 0 ≤ v) : intDecode false (intEncode v) = v := by
  have hs := intDecode_intEncode v
  have hbytes := intEncode_bytes v
  cases hb : intEncode v with
  | nil => exact absurd hb (intEncode_ne_nil v)
  | cons b rest =>
    rw [hb] at hbytes
    rw [hb, intDecode_signed_cons] at hs
    show (fromBE (b :: rest) : Int) = v
    split at hs
    · exact hs
    · -- a set leading bit makes the signed reading `fromBE − 256^length`, negative for a string of octets
      have : (fromBE (b :: rest) : Int) < (256 : Int) ^ (rest.length + 1) := by
        simpa using Int.ofNat_lt.mpr (fromBE_lt (b :: rest) hbytes)
      omega

end Snmp.Ber
