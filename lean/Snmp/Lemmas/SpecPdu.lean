/-
  The strict RFC reader on PDUs an agent writes (`Glue.WritesPdu`, any admissible length form at
  every TLV): `Spec.readPdu` extracts exactly the record the x690 mirror + glue hand to the
  operation logic (`writesPdu_read`).  This is what lets the SNMPv3 path of the model — which hands
  the PDU inside a scoped PDU to the strict reader (`Usm.extractScoped`) — stand for the code,
  which reads it through `PDU.decode_raw`.
-/
import Snmp.Lemmas.GlueLemmas
namespace Snmp.Glue
open Snmp Snmp.Ber Snmp.Ops

theorem readSeq_encs (es : List Enc) (h : Enc.WFL es) :
    Spec.readSeq (Enc.bytesL es) = some (es.map fun e => ((rawOf e).t, (rawOf e).c)) := by
  rw [bytesL_rawOf, Spec.readSeq_raw _ (fun x hx => (map_rawOf_ok es h x hx).1)]
  simp [List.map_map, Function.comp_def]

theorem readVal_oid {c : Bytes} {o : Oid} (h : Spec.readVal 6 c = some (.oid o)) : Spec.readOid c = some o :=
  (Option.map_inj_right fun _ _ => Val.oid.inj).mp h

theorem readVal_int {c : Bytes} {v : Int} (h : Spec.readVal 2 c = some (.int v)) : Spec.readInt c = some v :=
  (Option.map_inj_right fun _ _ => Val.int.inj).mp h

/-- a binding as the strict reader sees it — provided it is written under the identifier octet
    RFC 3416 prescribes (SEQUENCE, 0x30) -/
def StdBind (e : Enc) : Prop := (rawOf e).t = 48

theorem writesBind_spec {e : Enc} {vb : VarBind} (h : WritesBind e vb) (hstd : StdBind e) :
    Spec.readVarBind ((rawOf e).t, (rawOf e).c) = some vb := by
  obtain ⟨wf, _, _, _⟩ := writesBind_read h
  obtain ⟨f, t, eo, ev, rfl, hf, ht, hk, ho, hv⟩ := h
  obtain ⟨fo, to, co, rfl, hfo, hso, _⟩ := ho
  obtain ⟨fv, tv, cv, rfl, hfv, hsv, _⟩ := hv
  obtain rfl : to = 6 := (readVal_tag hso).1
  subst hstd
  have hseq := readSeq_encs [.prim fo 6 co, .prim fv tv cv] wf.2.2.2
  simp only [rawOf, List.map_cons, List.map_nil] at hseq
  unfold Spec.readVarBind
  simp only [rawOf, ne_eq, not_true_eq_false, ↓reduceIte, hseq, readVal_oid hso, hsv, bind, Option.bind, pure]

theorem writesBinds_spec {es : List Enc} {vbs : List VarBind} (h : WritesBinds es vbs) (hstd : ∀ e ∈ es, StdBind e) :
    (es.map fun e => ((rawOf e).t, (rawOf e).c)).mapM Spec.readVarBind = some vbs := by
  induction h with
  | nil => rfl
  | cons hb _ ih =>
    have h1 := writesBind_spec hb (hstd _ (List.mem_cons_self))
    have h2 := ih (fun e he => hstd e (List.mem_cons_of_mem _ he))
    simp [List.mapM_cons, h1, h2]

/-- the PDU's binding list is written under 0x30, and so is every binding -/
def StdPdu : Enc → Prop
  | .pdu _ _ [_, _, _, .cons _ tl items] => tl = 48 ∧ ∀ e ∈ items, StdBind e
  | _ => False

/-- `Spec.readPdu` on a PDU an agent wrote with the standard identifier octets for the binding list
    and the bindings yields the very record `PDU.decode_raw` (mirror + glue, `writesPdu_read`) hands
    to the operations. -/
theorem writesPdu_spec {e : Enc} {cls : String} {p : PduResp} (h : WritesPdu e cls p) (hstd : StdPdu e) :
    Spec.readPdu (rawOf e).t (rawOf e).c = some ⟨(rawOf e).t, p.requestId, p.errorStatus, p.errorIndex, p.varbinds⟩ := by
  obtain ⟨wf, _, _, _⟩ := writesPdu_read h
  obtain ⟨f, t, fl, tl, erid, ees, eei, items, rfl, hf, ht, hk, hn, hctor, hfl, htl, hkl, hnl, h1, h2, h3, hb⟩ := h
  obtain ⟨rfl, hitems⟩ := hstd
  obtain ⟨f1, t1, c1, rfl, _, r1, _⟩ := h1
  obtain ⟨f2, t2, c2, rfl, _, r2, _⟩ := h2
  obtain ⟨f3, t3, c3, rfl, _, r3, _⟩ := h3
  obtain rfl := readVal_int_tag r1
  obtain rfl := readVal_int_tag r2
  obtain rfl := readVal_int_tag r3
  have hseq := readSeq_encs [.prim f1 2 c1, .prim f2 2 c2, .prim f3 2 c3, .cons fl 48 items] wf.2.2.2.1
  simp only [rawOf, List.map_cons, List.map_nil] at hseq
  have hitemsSeq := readSeq_encs items (writesBinds_read hb).1
  have hvbs := writesBinds_spec hb hitems
  show Spec.readPdu t (Enc.bytesL [.prim f1 2 c1, .prim f2 2 c2, .prim f3 2 c3, .cons fl 48 items]) = _
  unfold Spec.readPdu
  rw [hseq]
  simp only [hitemsSeq, hvbs, readVal_int r1, readVal_int r2, readVal_int r3, bind, Option.bind, pure]
  rfl

end Snmp.Glue
