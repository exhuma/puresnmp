/-
  The x690 mirror on whole nested structures: a well-formed tree of TLVs (`Enc`: any admissible
  definite length form at every node) placed anywhere in a datagram is decoded by `decodeAt` +
  `readNode` to the tree of the same shape.
-/
import Snmp.Lemmas.SeqItems
namespace Snmp.Ber
open Snmp.Spec (Small)

/-- what an agent writes: a tree of TLVs with a length form chosen at every node -/
inductive Enc where
  | prim (f : LenForm) (t : Nat) (c : Bytes)
  | cons (f : LenForm) (t : Nat) (items : List Enc)
  /-- a PDU: request-id, two integers and the binding list (`PDU.decode_raw` reads exactly four
      TLVs at absolute indices and unpacks every binding into two items) -/
  | pdu (f : LenForm) (t : Nat) (items : List Enc)

mutual
def Enc.bytes : Enc → Bytes
  | .prim f t c => Spec.tlv f t c
  | .cons f t items => Spec.tlv f t (Enc.bytesL items)
  | .pdu f t items => Spec.tlv f t (Enc.bytesL items)
def Enc.bytesL : List Enc → Bytes
  | [] => []
  | e :: es => e.bytes ++ Enc.bytesL es
end

/-- readout of a primitive node by registered kind (the non-constructed cases of `readNode`) -/
def readLeaf (ent : Entry) (tag : Nat) (c : Bytes) : Except BErr Tree :=
  match ent.kind with
  | "int" => .ok (.int ent.name (intDecode ent.signed c))
  | "str" => .ok (.str ent.name c)
  | "ip" => .ok (.str ent.name c)
  | "null" => .ok .null
  | "oid" => (oidDecode c).map .oid
  | "marker" => .ok (.marker ent.name)
  | _ => .ok (.raw ent.name tag c)

mutual
/-- the tree the structure stands for -/
def Enc.tree : Enc → Except BErr Tree
  | .prim _ t c => readLeaf (lookup t) t c
  | .cons _ t items => do
    let ts ← Enc.treeL items
    pure (.seq (lookup t).name ts)
  | .pdu _ t items => do
    let ts ← Enc.treeL items
    pure (.seq (lookup t).name ts)
def Enc.treeL : List Enc → Except BErr (List Tree)
  | [] => pure []
  | e :: es => do
    let t ← e.tree
    let ts ← Enc.treeL es
    pure (t :: ts)
end

def Enc.tag : Enc → Nat
  | .prim _ t _ => t
  | .cons _ t _ => t
  | .pdu _ t _ => t

def Enc.isIntPrim : Enc → Prop
  | .prim _ t _ => (lookup t).kind = "int"
  | _ => False

def Enc.isPair : Enc → Prop
  | .cons _ _ [_, _] => True
  | _ => False

def Enc.isBindList : Enc → Prop
  | .cons _ t items => (lookup t).name = "Sequence" ∧ ∀ it ∈ items, it.isPair
  | _ => False

/-- the shape `PDU.decode_raw` insists on -/
def pduShape : List Enc → Prop
  | [a, b, c, d] => a.isIntPrim ∧ b.isIntPrim ∧ c.isIntPrim ∧ d.isBindList
  | _ => False

mutual
def Enc.WF : Enc → Prop
  | .prim f t c => f.ok c.length ∧ (t ≠ 255 ∧ Gen.noDefaultCtor.contains (lookup t).name = false) ∧ (lookup t).kind ≠ "seq" ∧ (lookup t).kind ≠ "pdu"
  | .cons f t items => f.ok (Enc.bytesL items).length ∧ (t ≠ 255 ∧ Gen.noDefaultCtor.contains (lookup t).name = false) ∧ (lookup t).kind = "seq" ∧ Enc.WFL items
  | .pdu f t items => f.ok (Enc.bytesL items).length ∧ (t ≠ 255 ∧ Gen.noDefaultCtor.contains (lookup t).name = false) ∧ (lookup t).kind = "pdu" ∧ Enc.WFL items ∧ pduShape items
def Enc.WFL : List Enc → Prop
  | [] => True
  | e :: es => e.WF ∧ Enc.WFL es
end

mutual
def Enc.depth : Enc → Nat
  | .prim _ _ _ => 1
  | .cons _ _ items => 1 + Enc.depthL items
  | .pdu _ _ items => 1 + Enc.depthL items
def Enc.depthL : List Enc → Nat
  | [] => 0
  | e :: es => max e.depth (Enc.depthL es)
end

mutual
/-- the longest item list anywhere in the structure (budget of the `while` loop) -/
def Enc.width : Enc → Nat
  | .prim _ _ _ => 0
  | .cons _ _ items => max items.length (Enc.widthL items)
  | .pdu _ _ items => max items.length (Enc.widthL items)
def Enc.widthL : List Enc → Nat
  | [] => 0
  | e :: es => max e.width (Enc.widthL es)
end

/-- the node found by `decodeAt` for a TLV lying behind `pre` -/
def nodeAt (f : LenForm) (t : Nat) (c pre : Bytes) : Node :=
  ⟨lookup t, t, ⟨pre.length + 1 + (specLength f c.length).length,
    ((pre.length + 1 + (specLength f c.length).length + c.length : Nat) : Int)⟩⟩

theorem nodeAt_eq (f : LenForm) (t : Nat) (c pre : Bytes) : nodeAt f t c pre = nodeAtLen f t c pre.length := rfl

/-- the outer TLV of a structure: length form, identifier octet, content octets -/
def _root_.Snmp.Glue.rawOf : Enc → RawTlv
  | .prim f t c => ⟨f, t, c⟩
  | .cons f t items => ⟨f, t, Enc.bytesL items⟩
  | .pdu f t items => ⟨f, t, Enc.bytesL items⟩

open Snmp.Glue (rawOf)

theorem bytes_rawOf (e : Enc) : e.bytes = (rawOf e).bytes := by
  cases e <;> rfl

theorem bytesL_rawOf : ∀ es : List Enc, Enc.bytesL es = rawBytes (es.map rawOf)
  | [] => rfl
  | e :: es => by simp only [Enc.bytesL, List.map_cons, rawBytes, bytes_rawOf e, bytesL_rawOf es]

theorem tag_rawOf (e : Enc) : (rawOf e).t = e.tag := by cases e <;> rfl

theorem entry_rawOf (e : Enc) (i : Nat) : (nodeAtLen (rawOf e).f (rawOf e).t (rawOf e).c i).entry = lookup e.tag := by
  rw [nodeAtLen_entry, tag_rawOf]

theorem rawOf_ok (e : Enc) (h : e.WF) : (rawOf e).ok := by
  cases e <;> exact ⟨h.1, h.2.1⟩

theorem map_rawOf_ok (es : List Enc) (h : Enc.WFL es) : ∀ x ∈ es.map rawOf, x.ok := by
  induction es with
  | nil => nofun
  | cons e es ih => exact List.forall_mem_cons.mpr ⟨rawOf_ok e h.1, ih h.2⟩

/-- a class registered as a sequence can be instantiated, so a constructed structure is well-formed with its items -/
theorem wf_cons {f : LenForm} {t : Nat} {items : List Enc} (hf : f.ok (Enc.bytesL items).length) (ht : t ≠ 255)
    (hk : (lookup t).kind = "seq") (hitems : Enc.WFL items) : (Enc.cons f t items).WF :=
  ⟨hf, ⟨ht, ctor_of_not_pdu t (by rw [hk]; decide)⟩, hk, hitems⟩

theorem seqItems_enc {data : Bytes} {i t : Nat} {f : LenForm} {items : List Enc} (h : Enc.WFL items)
    (hat : At data i (Spec.tlv f t (Enc.bytesL items))) (fuel : Nat) (hf : items.length ≤ fuel) :
    seqItems data (nodeAtLen f t (Enc.bytesL items) i).slice fuel
      = .ok (rawNodes (i + 1 + (specLength f (Enc.bytesL items).length).length) (items.map rawOf)) := by
  rw [bytesL_rawOf] at hat ⊢
  exact seqItems_node _ (map_rawOf_ok items h) hat fuel (by rw [List.length_map]; exact Nat.le_succ_of_le hf)

theorem readNode_leaf (data : Bytes) (fuel depth : Nat) (n : Node)
    (h1 : n.entry.kind ≠ "seq") (h2 : n.entry.kind ≠ "pdu") :
    readNode data fuel (depth + 1) n = readLeaf n.entry n.tagByte (n.content data) := by
  -- the two definitions match on the kind alike, and the two kinds only `readNode` knows are excluded
  rw [readNode, readLeaf]
  split <;> first | contradiction | simp only [*]

theorem readNode_leaf_at {data c : Bytes} {i t : Nat} {f : LenForm} (fuel depth : Nat)
    (hs : (lookup t).kind ≠ "seq") (hp : (lookup t).kind ≠ "pdu") (hat : At data i (Spec.tlv f t c)) :
    readNode data fuel (depth + 1) (nodeAtLen f t c i) = readLeaf (lookup t) t c := by
  rw [readNode_leaf _ _ _ _ (by rwa [nodeAtLen_entry]) (by rwa [nodeAtLen_entry]), nodeAtLen_entry, nodeAtLen_tagByte,
    nodeAtLen_content_at hat]

theorem readNode_seq (data : Bytes) (fuel depth : Nat) (n : Node) (h : n.entry.kind = "seq") :
    readNode data fuel (depth + 1) n = (do
      let items ← seqItems data n.slice fuel
      let ts ← items.mapM (readNode data fuel depth)
      pure (.seq n.entry.name ts)) := by
  rw [readNode]
  simp only [h]

def pairCheck (t : Tree) : Bool := match t with | .seq _ [_, _] => true | _ => false

/-- the end of `PDU.decode_raw`, `for oid, value in values`: every binding has to unpack into two items -/
def unpackCheck (name : String) (ts : List Tree) : Except BErr Tree :=
  match ts with
  | [_, _, _, .seq _ items] => if items.all pairCheck then pure (.seq name ts) else throw .value
  | _ => throw .value

theorem readNode_pdu {data : Bytes} {fuel depth : Nat} {n a b c d : Node} {i1 i2 i3 i4 : Nat}
    (hk : n.entry.kind = "pdu") (hne : data.isEmpty = false)
    (ha : decodeAt data n.slice.start = .ok (a, i1)) (hb : decodeAt data i1 = .ok (b, i2))
    (hc : decodeAt data i2 = .ok (c, i3)) (hd : decodeAt data i3 = .ok (d, i4))
    (ka : a.entry.kind = "int") (kb : b.entry.kind = "int") (kc : c.entry.kind = "int")
    (nd : d.entry.name = "Sequence") :
    readNode data fuel (depth + 1) n =
      [a, b, c, d].mapM (readNode data fuel depth) >>= unpackCheck n.entry.name := by
  rw [readNode]
  simp only [hk, hne, ha, hb, hc, hd, ka, kb, kc, nd, bind, Except.bind, bne_self_eq_false, Bool.or_self,
    Bool.false_eq_true, ↓reduceIte]
  rfl

theorem treeL_cons_ok {e : Enc} {es : List Enc} {ts : List Tree} (h : Enc.treeL (e :: es) = .ok ts) :
    ∃ t ts', e.tree = .ok t ∧ Enc.treeL es = .ok ts' ∧ ts = t :: ts' := by
  obtain ⟨t, ht, h⟩ := Except.bind_eq_ok h
  obtain ⟨ts', hts, h⟩ := Except.bind_eq_ok h
  exact ⟨t, ts', ht, hts, (Except.ok.inj h).symm⟩

theorem cons_tree_ok {f : LenForm} {t : Nat} {items : List Enc} {tr : Tree} (h : (Enc.cons f t items).tree = .ok tr) :
    ∃ ts, Enc.treeL items = .ok ts ∧ tr = .seq (lookup t).name ts := by
  obtain ⟨ts, hts, h⟩ := Except.bind_eq_ok h
  exact ⟨ts, hts, (Except.ok.inj h).symm⟩

theorem pair_tree {it : Enc} {tr : Tree} (hp : it.isPair) (h : it.tree = .ok tr) : pairCheck tr = true := by
  unfold Enc.isPair at hp
  split at hp
  · obtain ⟨ts, h2, rfl⟩ := cons_tree_ok h
    obtain ⟨tx, _, -, h1, rfl⟩ := treeL_cons_ok h2
    obtain ⟨ty, _, -, h0, rfl⟩ := treeL_cons_ok h1
    cases h0
    rfl
  · exact hp.elim

theorem treeL_pairs {items : List Enc} {ts : List Tree} (hp : ∀ it ∈ items, it.isPair) (h : Enc.treeL items = .ok ts) :
    ts.all pairCheck = true := by
  induction items generalizing ts with
  | nil => cases h; rfl
  | cons it items ih =>
    obtain ⟨t, ts, ht, hts, rfl⟩ := treeL_cons_ok h
    obtain ⟨h1, h2⟩ := List.forall_mem_cons.mp hp
    rw [List.all_cons, pair_tree h1 ht, ih h2 hts]
    rfl

theorem pduShape_inv {items : List Enc} (h : pduShape items) :
    ∃ a b c d, items = [a, b, c, d] ∧ a.isIntPrim ∧ b.isIntPrim ∧ c.isIntPrim ∧ d.isBindList := by
  unfold pduShape at h
  split at h
  · exact ⟨_, _, _, _, rfl, h⟩
  · exact h.elim

theorem isBindList_inv {d : Enc} (h : d.isBindList) : ∃ f t bs, d = .cons f t bs ∧ ∀ it ∈ bs, it.isPair := by
  cases d with
  | cons f t bs => exact ⟨f, t, bs, rfl, h.2⟩
  | prim => exact h.elim
  | pdu => exact h.elim

theorem unpackCheck_trees {items : List Enc} {ts : List Tree} (name : String) (hs : pduShape items)
    (h : Enc.treeL items = .ok ts) : unpackCheck name ts = .ok (.seq name ts) := by
  obtain ⟨a, b, c, d, rfl, -, -, -, hd⟩ := pduShape_inv hs
  obtain ⟨ta, _, -, h3, rfl⟩ := treeL_cons_ok h
  obtain ⟨tb, _, -, h2, rfl⟩ := treeL_cons_ok h3
  obtain ⟨tc, _, -, h1, rfl⟩ := treeL_cons_ok h2
  obtain ⟨td, _, htd, h0, rfl⟩ := treeL_cons_ok h1
  cases h0
  obtain ⟨_, _, bs, rfl, hpairs⟩ := isBindList_inv hd
  obtain ⟨its, hits, rfl⟩ := cons_tree_ok htd
  exact if_pos (treeL_pairs hpairs hits)

theorem isIntPrim_kind {e : Enc} (h : e.isIntPrim) : (lookup e.tag).kind = "int" := by
  cases e <;> first | exact h | exact h.elim

theorem isBindList_name {e : Enc} (h : e.isBindList) : (lookup e.tag).name = "Sequence" := by
  cases e <;> first | exact h.1 | exact h.elim

theorem Enc.depth_pos (e : Enc) : 1 ≤ e.depth := by
  cases e <;> first | exact Nat.le_refl 1 | exact Nat.le_add_right 1 _

mutual
/-- **Any well-formed structure is read out to its tree**, wherever it lies in the datagram:
    `readNode` on the node `decodeAt` finds for it. -/
theorem read_enc (e : Enc) (h : e.WF) {data : Bytes} (i fuel depth : Nat) (hat : At data i e.bytes)
    (hw : e.width ≤ fuel) (hd : e.depth ≤ depth) :
    readNode data fuel depth (nodeAtLen (rawOf e).f (rawOf e).t (rawOf e).c i) = e.tree := by
  obtain ⟨n, rfl⟩ := Nat.exists_eq_add_of_le' (Nat.le_trans e.depth_pos hd)
  cases e with
  | prim f t c =>
    obtain ⟨-, -, hs, hp⟩ := h
    exact readNode_leaf_at fuel n hs hp hat
  | cons f t items =>
    obtain ⟨-, -, hk, hitems⟩ := h
    have hd : Enc.depthL items ≤ n := Nat.le_of_add_le_add_left (Nat.add_comm n 1 ▸ hd)
    have hw := Nat.max_le.mp hw
    show readNode data fuel (n + 1) (nodeAtLen f t (Enc.bytesL items) i) = _
    rw [readNode_seq data fuel n (nodeAtLen f t (Enc.bytesL items) i) hk, seqItems_enc hitems hat fuel hw.1]
    simp only [bind, Except.bind]
    rw [read_encs items hitems _ fuel n hat.content hw.2 hd]
    rfl
  | pdu f t items =>
    -- `PDU.decode_raw` does not loop: it calls `decode` four times, each where the last one ended.  The four
    -- items lie at `hc`, `hc.right`, …, so the calls return their nodes (`decodeAt_run`), of the kinds
    -- `pduShape` promises; reading the four nodes is `read_encs`, and the unpacking of the bindings at the
    -- end passes because every binding is a pair (`unpackCheck_trees`).
    obtain ⟨-, -, hk, hitems, hshape⟩ := h
    have hd : Enc.depthL items ≤ n := Nat.le_of_add_le_add_left (Nat.add_comm n 1 ▸ hd)
    have hc := hat.content
    have hread := read_encs items hitems _ fuel n hc (Nat.max_le.mp hw).2 hd
    show readNode data fuel (n + 1) (nodeAtLen f t (Enc.bytesL items) i)
      = Enc.treeL items >>= fun ts => pure (.seq (lookup t).name ts)
    rw [bytesL_rawOf] at hc hread ⊢
    obtain ⟨a, b, c, d, rfl, hia, hib, hic, hid⟩ := pduShape_inv hshape
    obtain ⟨wa, wb, wc, wd, -⟩ := hitems
    refine (readNode_pdu ((congrArg Entry.kind (nodeAtLen_entry f t _ i)).trans hk) hat.nonempty (decodeAt_run hc (rawOf_ok a wa))
      (decodeAt_run hc.right (rawOf_ok b wb)) (decodeAt_run hc.right.right (rawOf_ok c wc))
      (decodeAt_run hc.right.right.right (rawOf_ok d wd))
      (by rw [entry_rawOf]; exact isIntPrim_kind hia) (by rw [entry_rawOf]; exact isIntPrim_kind hib)
      (by rw [entry_rawOf]; exact isIntPrim_kind hic) (by rw [entry_rawOf]; exact isBindList_name hid)).trans ?_
    refine (congrArg (· >>= unpackCheck (lookup t).name) hread).trans ?_
    cases htl : Enc.treeL [a, b, c, d] with
    | error _ => rfl
    | ok ts => exact unpackCheck_trees _ hshape htl

theorem read_encs (es : List Enc) (h : Enc.WFL es) {data : Bytes} (i fuel depth : Nat) (hat : At data i (Enc.bytesL es))
    (hw : Enc.widthL es ≤ fuel) (hd : Enc.depthL es ≤ depth) :
    (rawNodes i (es.map rawOf)).mapM (readNode data fuel depth) = Enc.treeL es := by
  cases es with
  | nil => rfl
  | cons e es =>
    have hw := Nat.max_le.mp hw
    have hd := Nat.max_le.mp hd
    simp only [List.map_cons, rawNodes, List.mapM_cons, Enc.treeL, ← bytes_rawOf,
      read_enc e h.1 i fuel depth hat.left hw.1 hd.1, read_encs es h.2 _ fuel depth hat.right hw.2 hd.2]
end

/-- **Any well-formed structure decodes to its tree**, wherever it lies in the datagram: `x690.decode`
    finds its node, the next TLV starts right behind it, and the node is read out to the tree. -/
theorem decode_read_at (e : Enc) (h : e.WF) {data : Bytes} {i : Nat} (hat : At data i e.bytes) (fuel depth : Nat)
    (hw : e.width ≤ fuel) (hd : e.depth ≤ depth) :
    decodeAt data i = .ok (nodeAtLen (rawOf e).f (rawOf e).t (rawOf e).c i, i + e.bytes.length) ∧
      readNode data fuel depth (nodeAtLen (rawOf e).f (rawOf e).t (rawOf e).c i) = e.tree := by
  refine ⟨?_, read_enc e h i fuel depth hat hw hd⟩
  rw [bytes_rawOf] at hat ⊢
  exact decodeAt_at hat (rawOf_ok e h)

theorem decodeTree_enc (e : Enc) (h : e.WF) (fuel depth : Nat) (hw : e.width ≤ fuel) (hd : e.depth ≤ depth) :
    decodeTree e.bytes fuel depth = e.tree := by
  obtain ⟨hdec, hread⟩ := decode_read_at e h (At.self e.bytes) fuel depth hw hd
  unfold decodeTree
  simp only [hdec, bind, Except.bind]
  exact hread

/-- the `while next_pos < end` loop of `Sequence.decode_raw` over the remaining items -/
theorem decode_loop : ∀ (es : List Enc), Enc.WFL es → ∀ (pre rest : Bytes) (fuel depth f : Nat) (acc : List Node),
    Enc.widthL es ≤ fuel → Enc.depthL es ≤ depth → es.length ≤ f →
    ∃ nodes, seqItems.loop (pre ++ Enc.bytesL es ++ rest) ((pre.length + (Enc.bytesL es).length : Nat) : Int) f pre.length acc
        = .ok (acc.reverse ++ nodes) ∧
      nodes.mapM (readNode (pre ++ Enc.bytesL es ++ rest) fuel depth) = Enc.treeL es := by
  intro es h pre rest fuel depth f acc hw hd hf
  have hat := At.mk pre (Enc.bytesL es) rest
  refine ⟨rawNodes pre.length (es.map rawOf), ?_, read_encs es h pre.length fuel depth hat hw hd⟩
  rw [bytesL_rawOf] at hat ⊢
  exact seqItems_loop_at _ (map_rawOf_ok es h) _ f acc hat (by simpa using hf)

end Snmp.Ber
