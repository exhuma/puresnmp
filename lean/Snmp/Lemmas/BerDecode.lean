/-
  The index-based decoder of the x690 mirror on well-formed TLVs, in any admissible definite
  length form, lying anywhere in a datagram.  `At data i x` is the notion everything above this
  file is stated with: the decoder works with absolute indices into one datagram, and an offset is
  moved by adding lengths, never by re-bracketing the datagram.
-/
import Snmp.Lemmas.BerLemmas
namespace Snmp.Ber
open Snmp.Spec (Small)

/-- the octets `x` lie at offset `i` of `data` -/
def At (data : Bytes) (i : Nat) (x : Bytes) : Prop := ∃ pre rest, data = pre ++ x ++ rest ∧ pre.length = i

namespace At
variable {data x a b : Bytes} {i : Nat}

theorem mk (pre x rest : Bytes) : At (pre ++ x ++ rest) pre.length x := ⟨pre, rest, rfl, rfl⟩

theorem whole (x rest : Bytes) : At (x ++ rest) 0 x := ⟨[], rest, rfl, rfl⟩

theorem self (x : Bytes) : At x 0 x := ⟨[], [], by simp, rfl⟩

theorem left (h : At data i (x ++ b)) : At data i x := by
  obtain ⟨pre, rest, rfl, rfl⟩ := h
  exact ⟨pre, b ++ rest, by simp, rfl⟩

theorem right (h : At data i (a ++ x)) : At data (i + a.length) x := by
  obtain ⟨pre, rest, rfl, rfl⟩ := h
  exact ⟨pre ++ a, rest, by simp, by simp⟩

theorem cast {y : Bytes} (h : At data i x) (e : x = y) : At data i y := e ▸ h

theorem le (h : At data i x) : i + x.length ≤ data.length := by
  obtain ⟨pre, rest, rfl, rfl⟩ := h
  simp

theorem head {t : Nat} (h : At data i (t :: x)) : data[i]? = some t := by
  obtain ⟨pre, rest, rfl, rfl⟩ := h
  simp

theorem nonempty {t : Nat} (h : At data i (t :: x)) : data.isEmpty = false := by
  obtain ⟨pre, rest, rfl, -⟩ := h
  cases pre <;> rfl

theorem slice (h : At data i x) : pySlice data i ((i + x.length : Nat) : Int) = x := by
  obtain ⟨pre, rest, rfl, rfl⟩ := h
  unfold pySlice
  have h1 : ¬ ((pre.length + x.length : Nat) : Int) < 0 := by omega
  have h2 : min (pre.length + x.length) (pre ++ x ++ rest).length = (pre ++ x).length := by simp
  simp only [h1, ↓reduceIte, Int.toNat_natCast, h2, List.take_left', List.drop_left']

end At

theorem decodeLength_drop (pre suf : Bytes) :
    decodeLength (pre ++ suf) pre.length = decodeLength suf 0 := by
  unfold decodeLength
  rw [List.getElem?_append_right (Nat.le_refl _), Nat.sub_self, List.drop_length_add_append]

/-- the node `x690.decode` makes of a TLV that starts at offset `n`: class registered for the
    identifier octet, and the bounds of the content -/
def nodeAtLen (f : LenForm) (t : Nat) (c : Bytes) (n : Nat) : Node :=
  ⟨lookup t, t, ⟨n + 1 + (specLength f c.length).length, ((n + 1 + (specLength f c.length).length + c.length : Nat) : Int)⟩⟩

-- not by `rfl`: to compare the two sides as they stand the unifier unfolds `lookup t`, a search of the registry
@[simp] theorem nodeAtLen_entry (f : LenForm) (t : Nat) (c : Bytes) (n : Nat) : (nodeAtLen f t c n).entry = lookup t := by
  rw [nodeAtLen]
@[simp] theorem nodeAtLen_tagByte (f : LenForm) (t : Nat) (c : Bytes) (n : Nat) : (nodeAtLen f t c n).tagByte = t := rfl
section tlv
variable {data c : Bytes} {i t : Nat} {f : LenForm}

theorem At.content (h : At data i (Spec.tlv f t c)) : At data (i + 1 + (specLength f c.length).length) c :=
  At.right (a := specLength f c.length) (At.right (a := [t]) h)

theorem decodeLength_at {n : Nat} (h : At data i (specLength f n)) (hf : f.ok n) :
    decodeLength data i = .ok (.definite n (specLength f n).length) := by
  obtain ⟨pre, rest, rfl, rfl⟩ := h
  rw [List.append_assoc, decodeLength_drop]
  rcases specLength_cases f n hf with ⟨h, e⟩ | ⟨ds, e, h1, h2, rfl⟩ <;> rw [e]
  · have h1 : ¬ n = 255 := by omega
    simp [decodeLength, h1, h]
  · have h3 : ¬ (128 + ds.length = 255) := by omega
    have h4 : ¬ (128 + ds.length < 128) := by omega
    have hne : ds ≠ [] := List.ne_nil_of_length_pos h1
    simp [decodeLength, h3, h4, hne]

theorem decodeLength_encodeLength (n : Nat) (hn : n < 256 ^ 126) (rest : Bytes) :
    decodeLength (encodeLength n ++ rest) 0 = .ok (.definite n (encodeLength n).length) := by
  rw [Reenc.encodeLength_formOf]
  exact decodeLength_at (At.whole _ rest) (Reenc.formOf_ok n hn)

theorem getValueSlice_at (h : At data i (Spec.tlv f t c)) (hf : f.ok c.length) :
    getValueSlice data i = .ok ((nodeAtLen f t c i).slice, i + (Spec.tlv f t c).length) := by
  have hlen : At data (i + 1) (specLength f c.length) := (At.right (a := [t]) h).left
  have hstop : ¬ (i + 1 + (specLength f c.length).length + c.length > data.length) := by
    have := h.le; rw [Spec.tlv_length] at this; omega
  unfold getValueSlice
  rw [decodeLength_at hlen hf]
  simp only [Except.bind, bind, hstop, ↓reduceIte, pure, Except.pure, nodeAtLen, Spec.tlv_length]
  congr 2; omega

theorem decodeAt_at (h : At data i (Spec.tlv f t c)) (hx : RawTlv.ok ⟨f, t, c⟩) :
    decodeAt data i = .ok (nodeAtLen f t c i, i + (Spec.tlv f t c).length) := by
  obtain ⟨hf, ht, hctor⟩ := hx
  unfold decodeAt
  simp only [h.head, ht, ↓reduceIte, getValueSlice_at h hf, Except.bind, bind, pure, Except.pure, hctor,
    Bool.false_eq_true, nodeAtLen]

theorem nodeAtLen_content_at (h : At data i (Spec.tlv f t c)) : (nodeAtLen f t c i).content data = c :=
  h.content.slice

end tlv

/-- the rows of the generated registry for the identifier octets SNMP uses: universal and application
    types, exception markers, SEQUENCE, two PDUs (class name, kind, signedness).  One evaluation of
    the table; the rows are named below. -/
theorem registry_rows :
    lookup 2 = ⟨"Integer", "int", true⟩ ∧ lookup 4 = ⟨"OctetString", "str", false⟩ ∧
    lookup 5 = ⟨"Null", "null", false⟩ ∧ lookup 6 = ⟨"ObjectIdentifier", "oid", false⟩ ∧
    lookup 64 = ⟨"IpAddress", "ip", false⟩ ∧ lookup 65 = ⟨"Counter", "int", false⟩ ∧
    lookup 66 = ⟨"Gauge", "int", false⟩ ∧ lookup 67 = ⟨"TimeTicks", "int", false⟩ ∧
    lookup 68 = ⟨"Opaque", "str", false⟩ ∧ lookup 69 = ⟨"NsapAddress", "int", true⟩ ∧
    lookup 70 = ⟨"Counter64", "int", false⟩ ∧ lookup 128 = ⟨"NoSuchObject", "marker", false⟩ ∧
    lookup 129 = ⟨"NoSuchInstance", "marker", false⟩ ∧ lookup 130 = ⟨"EndOfMibView", "marker", false⟩ ∧
    lookup 48 = ⟨"Sequence", "seq", false⟩ ∧ lookup 162 = ⟨"GetResponse", "pdu", false⟩ ∧
    lookup 168 = ⟨"Report", "pdu", false⟩ := by decide +kernel

theorem lookup_int : lookup 2 = ⟨"Integer", "int", true⟩ := registry_rows.1
theorem lookup_str : lookup 4 = ⟨"OctetString", "str", false⟩ := registry_rows.2.1
theorem lookup_null : lookup 5 = ⟨"Null", "null", false⟩ := registry_rows.2.2.1
theorem lookup_oid : lookup 6 = ⟨"ObjectIdentifier", "oid", false⟩ := registry_rows.2.2.2.1
theorem lookup_ip : lookup 64 = ⟨"IpAddress", "ip", false⟩ := registry_rows.2.2.2.2.1
theorem lookup_counter : lookup 65 = ⟨"Counter", "int", false⟩ := registry_rows.2.2.2.2.2.1
theorem lookup_gauge : lookup 66 = ⟨"Gauge", "int", false⟩ := registry_rows.2.2.2.2.2.2.1
theorem lookup_ticks : lookup 67 = ⟨"TimeTicks", "int", false⟩ := registry_rows.2.2.2.2.2.2.2.1
theorem lookup_opaque : lookup 68 = ⟨"Opaque", "str", false⟩ := registry_rows.2.2.2.2.2.2.2.2.1
theorem lookup_nsap : lookup 69 = ⟨"NsapAddress", "int", true⟩ := registry_rows.2.2.2.2.2.2.2.2.2.1
theorem lookup_counter64 : lookup 70 = ⟨"Counter64", "int", false⟩ := registry_rows.2.2.2.2.2.2.2.2.2.2.1
theorem lookup_noSuchObject : lookup 128 = ⟨"NoSuchObject", "marker", false⟩ := registry_rows.2.2.2.2.2.2.2.2.2.2.2.1
theorem lookup_noSuchInstance : lookup 129 = ⟨"NoSuchInstance", "marker", false⟩ := registry_rows.2.2.2.2.2.2.2.2.2.2.2.2.1
theorem lookup_endOfMibView : lookup 130 = ⟨"EndOfMibView", "marker", false⟩ := registry_rows.2.2.2.2.2.2.2.2.2.2.2.2.2.1
theorem lookup_seq : lookup 48 = ⟨"Sequence", "seq", false⟩ := registry_rows.2.2.2.2.2.2.2.2.2.2.2.2.2.2.1
theorem lookup_getResponse : lookup 162 = ⟨"GetResponse", "pdu", false⟩ := registry_rows.2.2.2.2.2.2.2.2.2.2.2.2.2.2.2.1

/-- the registered classes `x690.decode` cannot instantiate are PDU classes (generated tables) -/
theorem noDefaultCtor_pdu :
    ∀ e ∈ Gen.registry, Gen.noDefaultCtor.contains e.2.2.2.1 = true → e.2.2.2.2.1 = "pdu" := by
  decide +kernel

/-- hence every identifier octet of another kind stands for a class that can be instantiated -/
theorem ctor_of_not_pdu (t : Nat) (h : (lookup t).kind ≠ "pdu") :
    Gen.noDefaultCtor.contains (lookup t).name = false := by
  unfold lookup at h ⊢
  cases hf : Gen.registry.find? (fun e => e.1 == clsName t && e.2.1 == t % 32 && e.2.2.1 == natureName t) with
  | none => rfl
  | some e =>
    simp only [hf] at h ⊢
    have hmem := List.mem_of_find?_eq_some hf
    cases hc : Gen.noDefaultCtor.contains e.2.2.2.1 with
    | false => rfl
    | true => exact absurd (noDefaultCtor_pdu e hmem hc) h

end Snmp.Ber
