/-
  `Snmp.Usm` lemma by lemma: what the two outgoing steps change, and — as an equivalence for each
  check of `process_incoming_message` — exactly when it passes.  C09 (nothing unauthentic is
  accepted) reads these equivalences from left to right, C10 (authentic responses are accepted) from
  right to left, C11 uses the privacy halves.
-/
import Snmp.Model.V3Glue
namespace Snmp.Usm
open Snmp.Ber

theorem generate_some {cr : Crypto} {c : Creds} {d : Disco} {ce cn : Bytes} {r : Ops.PduReq}
    {p : Emit.V3Params} {md dg : Bytes} (h : generate cr c d ce cn r = some (p, md, dg)) :
    ∃ spdu, Emit.scopedBytes (baseParams c d ce cn r) r = some spdu ∧
      md = (encryptStep cr c d (baseParams c d ce cn r) spdu).2 ∧
      p = authStep cr c d (encryptStep cr c d (baseParams c d ce cn r) spdu).1 md ∧ dg = Emit.v3Around p md := by
  simp only [generate, Option.map_eq_some_iff, Prod.mk.injEq] at h
  obtain ⟨spdu, hs, rfl, rfl, rfl⟩ := h
  exact ⟨spdu, hs, rfl, rfl, rfl⟩

theorem authStep_eq (cr : Crypto) (c : Creds) (d : Disco) (p1 : Emit.V3Params) (md : Bytes) :
    ∃ ap, authStep cr c d p1 md = { p1 with authParams := ap } := by
  unfold authStep; cases c.auth <;> exact ⟨_, rfl⟩

theorem encryptStep_eq (cr : Crypto) (c : Creds) (d : Disco) (base : Emit.V3Params) (spdu : Bytes) :
    ∃ pp, (encryptStep cr c d base spdu).1 = { base with privParams := pp } := by
  unfold encryptStep; cases c.priv <;> exact ⟨_, rfl⟩

theorem authStep_auth (cr : Crypto) {c : Creds} {pw : Bytes} (hc : c.auth = some pw) (d : Disco) (p1 : Emit.V3Params) (md : Bytes) :
    authStep cr c d p1 md =
      { p1 with authParams := cr.mac (cr.loc pw d.engineId) (Emit.v3Around { p1 with authParams := zeros12 } md) } := by
  simp only [authStep, hc]

theorem encryptStep_priv (cr : Crypto) {c : Creds} {pp : Bytes} (hc : c.priv = some pp) (d : Disco) (base : Emit.V3Params) (spdu : Bytes) :
    encryptStep cr c d base spdu =
      ({ base with privParams := (cr.enc (cr.loc pp d.engineId) d.engineId d.boots d.time spdu).2 },
        Ber.tlv 4 (cr.enc (cr.loc pp d.engineId) d.engineId d.boots d.time spdu).1) := by
  simp only [encryptStep, hc]

variable {cr : Crypto} {c : Creds} {m : Spec.V3Msg} {im : InMsg} {s : Spec.ScopedPdu}

theorem checkUser_ok : checkUser c m = .ok () ↔ m.user = c.user := by
  simp [checkUser]

theorem checkLevel_ok : checkLevel c m = .ok () ↔
    (c.auth.isSome = true → authFlag m = true) ∧ (c.priv.isSome = true → privFlag m = true) := by
  simp [checkLevel]

/-- the digest check: nothing to do without the auth flag; otherwise the field found in the message
    is the MAC, under the user's localised key, of the octets received with that field zeroed -/
theorem verifyAuth_ok : verifyAuth cr c im = .ok () ↔
    authFlag im.m = false ∨
      ∃ pw z, c.auth = some pw ∧ im.zeroed = some z ∧ im.m.authParams = cr.mac (cr.loc pw im.m.engineId) z := by
  unfold verifyAuth
  cases authFlag im.m with
  | false => exact ⟨fun _ => .inl rfl, fun _ => rfl⟩
  | true =>
    cases c.auth with
    | none => simp
    | some pw =>
      cases im.zeroed with
      | none => simp
      -- the code compares `mac … != authParams`, the statement reads `authParams = mac …`
      | some z => simp [eq_comm (a := im.m.authParams)]

/-- msgData as an OCTET STRING: accepted only with the priv flag, decrypted with the privacy key
    localised to the engine id found in the message and the boots / time / salt found there -/
theorem extractScoped_cipher (htag : m.dataTag = 4) : extractScoped cr c m = .ok s ↔
    privFlag m = true ∧ ∃ pp plain sc rest, c.priv = some pp ∧
      cr.dec (cr.loc pp m.engineId) m.engineId m.boots m.time m.privParams m.data = some plain ∧
      Spec.readTLV plain = some (48, sc, rest) ∧ Spec.readScoped sc = some s := by
  unfold extractScoped
  rw [if_pos (beq_iff_eq.mpr htag)]
  constructor
  · intro h
    cases hp : privFlag m with
    | false => simp [hp] at h
    | true =>
    cases hc : c.priv with
    | none => simp [hp, hc] at h
    | some pp =>
    cases hd : cr.dec (cr.loc pp m.engineId) m.engineId m.boots m.time m.privParams m.data with
    | none => simp [hp, hc, hd] at h
    | some plain =>
    simp only [hp, hc, hd, Bool.not_true, Bool.false_eq_true, ↓reduceIte] at h
    split at h
    · rename_i sc rest hr
      cases hsc : Spec.readScoped sc with
      | none => simp [hsc] at h
      | some s' =>
        simp only [hsc, Except.ok.injEq] at h
        exact ⟨rfl, pp, plain, sc, rest, rfl, hd, hr, h ▸ hsc⟩
    · cases h
  · rintro ⟨hp, pp, plain, sc, rest, hc, hd, hr, hs⟩
    simp [hp, hc, hd, hr, hs]

theorem extractScoped_plain (htag : m.dataTag ≠ 4) : extractScoped cr c m = .ok s ↔
    privFlag m = false ∧ Spec.readScoped m.data = some s := by
  unfold extractScoped
  rw [if_neg (mt beq_iff_eq.mp htag)]
  cases privFlag m with
  | true => simp
  | false => cases Spec.readScoped m.data <;> simp

theorem shapeCheck_of_extract (h : extractScoped cr c m = .ok s) : shapeCheck m = .ok () := by
  unfold shapeCheck
  by_cases ht : m.dataTag = 4
  · simp [((extractScoped_cipher ht).mp h).1]
  · simp [ht]

/-- **`process_incoming_message` accepts exactly what passes every step.**  The shape check that comes first in
    the code does not appear: it follows from `extractScoped … = .ok s` (`shapeCheck_of_extract`). -/
theorem processIncoming_ok : processIncoming cr c im = .ok s ↔
    checkUser c im.m = .ok () ∧ verifyAuth cr c im = .ok () ∧ extractScoped cr c im.m = .ok s ∧
      hasUsmError s.pdu = false ∧ checkLevel c im.m = .ok () := by
  unfold processIncoming
  constructor
  · intro h
    cases h0 : shapeCheck im.m with
    | error e => simp [h0] at h
    | ok _ =>
    cases h1 : checkUser c im.m with
    | error e => simp [h0, h1] at h
    | ok _ =>
    cases h2 : verifyAuth cr c im with
    | error e => simp [h0, h1, h2] at h
    | ok _ =>
    cases h3 : extractScoped cr c im.m with
    | error e => simp [h0, h1, h2, h3] at h
    | ok s' =>
    simp only [h0, h1, h2, h3] at h
    cases he : hasUsmError s'.pdu with
    | true => simp [he] at h
    | false =>
    cases h4 : checkLevel c im.m with
    | error e => simp [he, h4] at h
    | ok _ =>
      simp only [he, h4, Bool.false_eq_true, ↓reduceIte, Except.ok.injEq] at h
      subst h
      exact ⟨rfl, rfl, rfl, he, rfl⟩
  · rintro ⟨h1, h2, h3, he, h4⟩
    simp [shapeCheck_of_extract h3, h1, h2, h3, he, h4]

variable {data : Bytes} {fuel : Nat}

theorem zeroed_eq {z : Bytes} : (inMsgOfWire m data).zeroed = some z ↔ RawDigest.resetRawDigest data = .ok z := by
  unfold inMsgOfWire
  cases RawDigest.resetRawDigest data <;> simp

/-- `V3MPM.decode` returns what `process_incoming_message` accepts of the decoded message, provided it carries a PDU -/
theorem incoming_ok : V3Glue.incoming cr c data fuel = .ok s ↔
    ∃ m, V3Glue.v3OfBytes data fuel = .ok m ∧ processIncoming cr c (inMsgOfWire m data) = .ok s ∧ (lookup s.pdu.tag).kind = "pdu" := by
  unfold V3Glue.incoming
  cases V3Glue.v3OfBytes data fuel with
  | error e => simp
  | ok m =>
    simp only [Except.ok.injEq, exists_eq_left']
    cases processIncoming cr c (inMsgOfWire m data) with
    | error e => simp
    | ok s' =>
      simp only [Except.ok.injEq, bne_iff_ne, ne_eq, ite_not]
      constructor
      · intro h
        split at h
        · cases h; exact ⟨rfl, ‹_›⟩
        · cases h
      · rintro ⟨rfl, hk⟩
        exact if_pos hk

end Snmp.Usm
