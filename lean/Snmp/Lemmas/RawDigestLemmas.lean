/-
  `reset_raw_digest` on every SNMPv3 datagram an agent may write (any tags, any admissible definite
  length form at each of the ten levels it passes): the window it zeroes is exactly the content
  of the fifth field of the security parameters.
-/
import Snmp.Model.RawDigest
import Snmp.Lemmas.BerDecode
namespace Snmp.RawDigest
open Snmp Snmp.Ber

variable {data : Bytes} {i : Nat}

theorem gvs_at {f : LenForm} {t : Nat} {c : Bytes} (h : At data i (Spec.tlv f t c)) (hf : f.ok c.length) :
    gvs data i = .ok ((nodeAtLen f t c i).slice, i + (Spec.tlv f t c).length) := by
  unfold gvs
  rw [getValueSlice_at h hf]

theorem skip_at {f : LenForm} {t : Nat} {c : Bytes} (n : Nat) (h : At data i (Spec.tlv f t c)) (hf : f.ok c.length) :
    skip data (n + 1) i = skip data n (i + (Spec.tlv f t c).length) := by
  simp only [skip, gvs_at h hf]

/-! ### a serialisation with a hole

  `F` writes its argument somewhere into a larger octet string, and everything around it is the
  same for all arguments of length `n`: `F ap = pre ++ ap ++ post` with `|pre| = i`.  Wrapping `F`
  into further octets or into a TLV keeps that (the length octets of the TLV depend on `n` only). -/

def Hole (n : Nat) (F : Bytes → Bytes) (i : Nat) : Prop :=
  ∃ pre post, pre.length = i ∧ ∀ ap : Bytes, ap.length = n → F ap = pre ++ ap ++ post

theorem hole_id (n : Nat) : Hole n (fun ap => ap) 0 := ⟨[], [], rfl, fun ap _ => by simp⟩

theorem hole_wrap {n i : Nat} {F : Bytes → Bytes} (h : Hole n F i) (A B : Bytes) :
    Hole n (fun ap => A ++ F ap ++ B) (A.length + i) := by
  obtain ⟨pre, post, rfl, hF⟩ := h
  exact ⟨A ++ pre, post ++ B, by simp, fun ap hap => by simp only [hF ap hap, List.append_assoc]⟩

/-- a TLV around it, whatever writes the length octets (`L` is `specLength f` or `encodeLength`);
    `d₀` is any argument of the right length and only serves to name the length of the content -/
theorem hole_tlv {n i : Nat} {F : Bytes → Bytes} (L : Nat → Bytes) (h : Hole n F i) (t : Nat) (d₀ : Bytes) (hd₀ : d₀.length = n) :
    Hole n (fun ap => t :: (L (F ap).length ++ F ap)) (1 + (L (F d₀).length).length + i) := by
  obtain ⟨pre, post, rfl, hF⟩ := h
  have hlen : ∀ ap : Bytes, ap.length = n → (F ap).length = (F d₀).length := fun ap hap => by
    rw [hF ap hap, hF d₀ hd₀]; simp [hap, hd₀]
  refine ⟨t :: (L (F d₀).length ++ pre), post, by simp; omega, fun ap hap => ?_⟩
  simp only [hlen ap hap]
  rw [hF ap hap]
  simp

theorem Hole.patch {n i : Nat} {F : Bytes → Bytes} (h : Hole n F i) (d z : Bytes) (hd : d.length = n) (hz : z.length = n) :
    (F d).take i ++ z ++ (F d).drop (i + n) = F z := by
  obtain ⟨pre, post, rfl, hF⟩ := h
  rw [hF d hd, hF z hz, List.append_assoc pre d, List.take_left' rfl, ← hd, ← List.length_append, ← List.append_assoc,
    List.drop_left' rfl]

/-- the forms and tags of the ten TLVs on the way to the digest -/
structure Shape where
  f0 : LenForm
  f1 : LenForm
  f2 : LenForm
  f3 : LenForm
  f4 : LenForm
  f5 : LenForm
  f6 : LenForm
  f7 : LenForm
  f8 : LenForm
  f9 : LenForm
  t0 : Nat
  t1 : Nat
  t2 : Nat
  t3 : Nat
  t4 : Nat
  t5 : Nat
  t6 : Nat
  t7 : Nat
  t8 : Nat
  t9 : Nat

/-- the other contents: version, header, engine id, boots, time, user, what follows the digest
    inside the security parameters (the privacy parameters), what follows the security parameters
    (msgData), and octets after the message -/
structure Parts where
  ver : Bytes
  hdr : Bytes
  eid : Bytes
  boots : Bytes
  time : Bytes
  user : Bytes
  tail : Bytes
  msgData : Bytes
  trailing : Bytes

def inner (s : Shape) (p : Parts) (d : Bytes) : Bytes :=
  Spec.tlv s.f5 s.t5 p.eid ++ Spec.tlv s.f6 s.t6 p.boots ++ Spec.tlv s.f7 s.t7 p.time ++ Spec.tlv s.f8 s.t8 p.user ++
    Spec.tlv s.f9 s.t9 d ++ p.tail

def sec (s : Shape) (p : Parts) (d : Bytes) : Bytes := Spec.tlv s.f4 s.t4 (inner s p d)

def body (s : Shape) (p : Parts) (d : Bytes) : Bytes :=
  Spec.tlv s.f1 s.t1 p.ver ++ Spec.tlv s.f2 s.t2 p.hdr ++ Spec.tlv s.f3 s.t3 (sec s p d) ++ p.msgData

/-- the datagram with `d` in the digest field -/
def wire (s : Shape) (p : Parts) (d : Bytes) : Bytes := Spec.tlv s.f0 s.t0 (body s p d) ++ p.trailing

/-- every length is written in an admissible form -/
def Shape.ok (s : Shape) (p : Parts) (d : Bytes) : Prop :=
  s.f0.ok (body s p d).length ∧ s.f1.ok p.ver.length ∧ s.f2.ok p.hdr.length ∧ s.f3.ok (sec s p d).length ∧
  s.f4.ok (inner s p d).length ∧ s.f5.ok p.eid.length ∧ s.f6.ok p.boots.length ∧ s.f7.ok p.time.length ∧
  s.f8.ok p.user.length ∧ s.f9.ok d.length

theorem body_assoc (s : Shape) (p : Parts) (d : Bytes) : body s p d =
    Spec.tlv s.f1 s.t1 p.ver ++ (Spec.tlv s.f2 s.t2 p.hdr ++ (Spec.tlv s.f3 s.t3 (sec s p d) ++ p.msgData)) := by
  simp only [body, List.append_assoc]

theorem inner_assoc (s : Shape) (p : Parts) (d : Bytes) : inner s p d =
    Spec.tlv s.f5 s.t5 p.eid ++ (Spec.tlv s.f6 s.t6 p.boots ++ (Spec.tlv s.f7 s.t7 p.time ++ (Spec.tlv s.f8 s.t8 p.user ++
      (Spec.tlv s.f9 s.t9 d ++ p.tail)))) := by
  simp only [inner, List.append_assoc]

/-- where the digest octets lie in a datagram of this shape: the index `reset_raw_digest` arrives
    at, step by step — into the message, past version and header, into the security parameters (an
    OCTET STRING around a SEQUENCE), past four fields, into the fifth -/
def digestAt (s : Shape) (p : Parts) (d : Bytes) : Nat :=
  0 + 1 + (specLength s.f0 (body s p d).length).length + (Spec.tlv s.f1 s.t1 p.ver).length + (Spec.tlv s.f2 s.t2 p.hdr).length
    + 1 + (specLength s.f3 (sec s p d).length).length + 1 + (specLength s.f4 (inner s p d).length).length
    + (Spec.tlv s.f5 s.t5 p.eid).length + (Spec.tlv s.f6 s.t6 p.boots).length + (Spec.tlv s.f7 s.t7 p.time).length
    + (Spec.tlv s.f8 s.t8 p.user).length + 1 + (specLength s.f9 d.length).length

/-- the datagram is prefix ++ digest ++ suffix, the same prefix and suffix for every digest of
    the same length -/
theorem wire_hole (s : Shape) (p : Parts) (d : Bytes) : Hole d.length (wire s p) (digestAt s p d) := by
  obtain ⟨pre, post, hlen, h⟩ := hole_wrap (hole_tlv (specLength s.f0) (hole_wrap (hole_tlv (specLength s.f3)
    (hole_tlv (specLength s.f4) (hole_wrap (hole_tlv (specLength s.f9) (hole_id d.length) s.t9 d rfl)
      (Spec.tlv s.f5 s.t5 p.eid ++ Spec.tlv s.f6 s.t6 p.boots ++ Spec.tlv s.f7 s.t7 p.time ++ Spec.tlv s.f8 s.t8 p.user) p.tail)
    s.t4 d rfl) s.t3 d rfl) (Spec.tlv s.f1 s.t1 p.ver ++ Spec.tlv s.f2 s.t2 p.hdr) p.msgData) s.t0 d rfl) [] p.trailing
  refine ⟨pre, post, hlen.trans ?_, h⟩
  show 0 + (1 + (specLength s.f0 (body s p d).length).length + (_ + (1 + (specLength s.f3 (sec s p d).length).length +
    (1 + (specLength s.f4 (inner s p d).length).length + (_ + (1 + (specLength s.f9 d.length).length + 0)))))) = _
  simp only [digestAt, List.length_append, Nat.add_assoc, Nat.add_zero]

/-- the width test of the code, `end − start ≠ 12` over Python integers, on the window `[k, k + n)` -/
theorem digest_window (k n : Nat) : ((k + n : Nat) : Int) - (k : Int) ≠ 12 ↔ n ≠ 12 := by omega

/-- `reset_raw_digest` on a datagram of this shape: its five `get_value_slice` and four skipping steps are located by
    the chain `w0 … wi` of `At` facts; the patched result is `Hole.patch` on `wire_hole` -/
theorem reset_wire (s : Shape) (p : Parts) (d : Bytes) (hok : s.ok p d) :
    resetRawDigest (wire s p d) =
      if d.length = 12 then .ok (wire s p zeros12) else .error .digestLength := by
  obtain ⟨h0, h1, h2, h3, h4, h5, h6, h7, h8, h9⟩ := hok
  have w0 : At (wire s p d) 0 (Spec.tlv s.f0 s.t0 (body s p d)) := At.whole _ _
  have wb := w0.content.cast (body_assoc s p d)
  have w3 := wb.right.right.left
  have w4 : At _ _ (Spec.tlv s.f4 s.t4 (inner s p d)) := w3.content
  have wi := w4.content.cast (inner_assoc s p d)
  have hskip := skip_at 3 wi.left h5
  rw [skip_at 2 wi.right.left h6, skip_at 1 wi.right.right.left h7, skip_at 0 wi.right.right.right.left h8, skip] at hskip
  unfold resetRawDigest
  simp only [gvs_at w0 h0, gvs_at wb.left h1, gvs_at wb.right.left h2, gvs_at w3 h3, gvs_at w4 h4, hskip,
    gvs_at wi.right.right.right.right.left h9, nodeAtLen]
  show (if ((digestAt s p d + d.length : Nat) : Int) - (digestAt s p d : Int) ≠ 12 then _ else
    Except.ok ((wire s p d).take (digestAt s p d) ++ zeros12 ++ (wire s p d).drop ((digestAt s p d + d.length : Nat) : Int).toNat)) = _
  simp only [digest_window, Int.toNat_natCast]
  by_cases hd : d.length = 12
  · rw [if_neg (by simpa using hd), if_pos hd, (wire_hole s p d).patch d zeros12 rfl (by simp [zeros12, hd])]
  · rw [if_pos hd, if_neg hd]

end Snmp.RawDigest
