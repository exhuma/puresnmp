/-
  Against ANY exchange function a walk of pairwise disjoint roots never requests an OID twice, and
  every OID it continues from was returned by the agent; hence the requests are bounded by the
  distinct OIDs the agent reveals (+1) and the loop cannot run out of budget.  Proved once, for any
  fetcher whose accepted answers advance every column (`Advances`).
-/
import Snmp.Lemmas.WalkLoop
import Snmp.Lemmas.Check
namespace Snmp.Walk
open Snmp

/-- in an accepted answer the bindings regrouped for the `i`-th requested OID lie strictly above
    it; `R cs c` records that the OID `c` was found in the answer to the request `cs` -/
def Advances (fetch : Fetcher) (R : List Oid → Oid → Prop) : Prop :=
  ∀ (cs : List Oid) (out : List VarBind), fetch cs = .ok out →
    (∀ i (hi : i < cs.length), ∀ v ∈ Py.stride out i cs.length, cs[i] < v.1) ∧ (∀ v ∈ out, R cs v.1)

theorem Ascending.advances {fetch : Fetcher} {R : List Oid → Oid → Prop} (h : Ascending fetch)
    (hR : ∀ cs out, fetch cs = .ok out → ∀ v ∈ out, R cs v.1) : Advances fetch R := fun cs out hf =>
  ⟨fun i hi v hv => (List.pairwise_cons.mp (h.chain hf i hi)).1 v.1 (List.mem_map_of_mem hv), hR cs out hf⟩

/-- the invariant of the walk loop against an arbitrary agent: `past` = every OID requested so far.
    `below` is restricted to the past requests inside the root of `p` (they were made for that
    root, `root_unique`): those made for a later root lie above the cursor of `p`. -/
structure BInv (roots : List Oid) (unf : List (Oid × VarBind)) (past : List Oid) : Prop where
  sub : (unf.map (·.1)).Sublist roots
  ins : ∀ p ∈ unf, p.1 <+: p.2.1
  nodup : past.Nodup
  below : ∀ o ∈ past, ∀ p ∈ unf, p.1 <+: o → o < p.2.1

theorem BInv.placed {roots : List Oid} {unf : List (Oid × VarBind)} {past : List Oid}
    (hi : BInv roots unf past) : Placed roots unf := ⟨hi.sub, hi.ins⟩

/-- requesting the current cursors keeps "nothing requested twice" -/
theorem BInv.request {roots : List Oid} (hd : WalkAbs.Disjoint roots) {unf : List (Oid × VarBind)}
    {past : List Oid} (hi : BInv roots unf past) : (past ++ unf.map (·.2.1)).Nodup := by
  rw [List.nodup_append]
  refine ⟨hi.nodup, pairwise_lt_nodup (hi.placed.cursors_lt hd), ?_⟩
  intro a ha b hb hab
  obtain ⟨p, hp, rfl⟩ := List.mem_map.mp hb
  subst hab
  exact absurd (hi.below _ ha p hp (hi.ins p hp)) (List.lt_irrefl _)

/-- the invariant after any accepted response. For `below`: an old request inside the root of a new cursor `p'` is
    either older than the cursor `p` that `p'` comes from (then below `p` by `below`, and `p` advanced), or it is
    `p`'s own cursor (a cursor lies in one root only, and keys are distinct) -/
theorem BInv.step {roots : List Oid} (hd : WalkAbs.Disjoint roots) {unf unf' : List (Oid × VarBind)}
    {past : List Oid} (hi : BInv roots unf past)
    (hp' : Placed roots unf') (hadv : ∀ p' ∈ unf', ∃ p ∈ unf, p.1 = p'.1 ∧ p.2.1 < p'.2.1) :
    BInv roots unf' (past ++ unf.map (·.2.1)) := by
  have hknd : (unf.map (·.1)).Nodup := pairwise_lt_nodup (hi.placed.keys_lt hd)
  refine ⟨hp'.sub, hp'.ins, hi.request hd, ?_⟩
  intro o ho p' hp' hpre
  obtain ⟨p, hp, hk, hcv⟩ := hadv p' hp'
  rcases List.mem_append.mp ho with h | h
  · exact List.lt_trans (hi.below o h p hp (hk ▸ hpre)) hcv
  · obtain ⟨q, hq, rfl⟩ := List.mem_map.mp h
    have hroot : q.1 = p.1 :=
      root_unique hd (hi.sub.subset (List.mem_map_of_mem hq))
        (hi.sub.subset (List.mem_map_of_mem hp)) (hi.ins q hq) (hk ▸ hpre)
    have : q = p := keys_inj hknd q hq p hp hroot
    subst this
    exact hcv

theorem BInv.start (roots : List Oid) : BInv roots (start roots) [] :=
  ⟨(Placed.start roots).sub, (Placed.start roots).ins, List.nodup_nil, fun _ h => nomatch h⟩

theorem next_columns (fetch : Fetcher) (R : List Oid → Oid → Prop) (hadv : Advances fetch R)
    (unf : List (Oid × VarBind)) (out : List VarBind) (hf : fetch (unf.map (·.2.1)) = .ok out) :
    ∀ p' ∈ live (cols (unf.map (·.1)) out),
      (∃ p ∈ unf, p.1 = p'.1 ∧ p.2.1 < p'.2.1) ∧ R (unf.map (·.2.1)) p'.2.1 := by
  intro p' hp'
  obtain ⟨hcol, hU⟩ := hadv _ out hf
  obtain ⟨_, col, hgrp, hlast⟩ := mem_live.mp hp'
  obtain ⟨i, hi, hcols⟩ := cols_mem.mp hgrp
  have hmem : p'.2 ∈ Py.stride out i unf.length := (Prod.mk.inj hcols).2 ▸ List.mem_of_getLast? hlast
  refine ⟨⟨unf[i], List.getElem_mem hi, (Prod.mk.inj hcols).1.symm, ?_⟩, hU p'.2 (stride_subset out i unf.length p'.2 hmem)⟩
  have := hcol i (by rwa [List.length_map]) p'.2 (by rwa [List.length_map])
  rwa [List.getElem_map] at this

/-- **The walk loop for any advancing fetcher.**  The requests it adds (`more`) never repeat an OID
    requested before, are non-empty, and consist of OIDs the loop started from (`S`) or found in the
    answer to one of these requests; there are at most `fuel` of them, exactly `fuel` if the loop
    was stopped by the budget. -/
theorem loop_requests (fetch : Fetcher) (R : List Oid → Oid → Prop) (hadv : Advances fetch R)
    (roots : List Oid) (lenient : Bool) (hd : WalkAbs.Disjoint roots) (S : Oid → Prop)
    (fuel : Nat) (unf : List (Oid × VarBind)) (yielded : List Oid) (ev : List Event)
    (hi : BInv roots unf (reqsOf ev).flatten) (hS : ∀ p ∈ unf, S p.2.1) :
    ∃ more : List (List Oid),
      reqsOf (loop fetch roots lenient fuel unf yielded ev).events = reqsOf ev ++ more ∧
      ((reqsOf ev).flatten ++ more.flatten).Nodup ∧
      (∀ q ∈ more, q ≠ [] ∧ ∀ c ∈ q, S c ∨ ∃ q' ∈ more, R q' c) ∧
      more.length ≤ fuel ∧
      ((loop fetch roots lenient fuel unf yielded ev).outcome = .outOfFuel → more.length = fuel) := by
  -- where an OID the loop continues from comes from
  let Src (more : List (List Oid)) (c : Oid) : Prop := S c ∨ ∃ q' ∈ more, R q' c
  have mono : ∀ {more c} (q : List Oid), Src more c → Src (more ++ [q]) c := fun q h =>
    h.imp id (fun ⟨q', hq', hr⟩ => ⟨q', List.mem_append_left _ hq', hr⟩)
  -- requesting the cursors `unf` after the requests `more`
  have add : ∀ (more : List (List Oid)) (unf : List (Oid × VarBind)), unf ≠ [] →
      (∀ q ∈ more, q ≠ [] ∧ ∀ c ∈ q, Src more c) → (∀ p ∈ unf, Src more p.2.1) →
      ∀ q ∈ more ++ [unf.map (·.2.1)], q ≠ [] ∧ ∀ c ∈ q, Src (more ++ [unf.map (·.2.1)]) c := by
    intro more unf hne hm hu q hq
    rcases List.mem_append.mp hq with h | h
    · exact ⟨(hm q h).1, fun c hc => mono _ ((hm q h).2 c hc)⟩
    · rw [List.mem_singleton.mp h]
      refine ⟨fun h => hne (List.map_eq_nil_iff.mp h), fun c hc => ?_⟩
      obtain ⟨p, hp, rfl⟩ := List.mem_map.mp hc
      exact mono _ (hu p hp)
  -- invariant after `n` iterations: nothing was requested twice (`BInv`), `more` are the `n` requests
  -- made, each of them and every cursor has a source
  obtain ⟨k, unf', _, ev', hk, ⟨hb, more, hev, hlen, hm, hu⟩, hs, _⟩ := loop_ends_disjoint fetch hd lenient
    (fun n unf _ ev' => BInv roots unf (reqsOf ev').flatten ∧ ∃ more, reqsOf ev' = reqsOf ev ++ more ∧
      more.length = n ∧ (∀ q ∈ more, q ≠ [] ∧ ∀ c ∈ q, Src more c) ∧ ∀ p ∈ unf, Src more p.2.1)
    (fun h => h.1.placed)
    (by
      rintro n unf y ev' vbs ⟨hb, more, hev, hlen, hm, hu⟩ hne hf
      have hnext := next_columns fetch R hadv unf vbs hf
      refine ⟨?_, more ++ [unf.map (·.2.1)], by rw [reqsOf_step, hev, List.append_assoc],
        by rw [List.length_append, hlen]; rfl, add more unf hne hm hu, ?_⟩
      · rw [reqsOf_step, List.flatten_append, List.flatten_singleton]
        exact hb.step hd (hb.placed.next vbs) fun p' hp' => (hnext p' hp').1
      · exact fun p' hp' => Or.inr ⟨_, List.mem_append_right _ (List.mem_singleton_self _), (hnext p' hp').2⟩)
    fuel 0 unf yielded ev
    ⟨hi, [], (List.append_nil _).symm, rfl, (fun _ h => nomatch h), fun p hp => Or.inl (hS p hp)⟩
  rw [Nat.zero_add] at hlen
  rcases hs.reqsOf with ⟨h1, h2⟩ | ⟨h1, hne, hl, ho⟩
  · refine ⟨more, by rw [h1, hev], by rw [← List.flatten_append, ← hev]; exact hb.nodup, hm, hlen ▸ hk, ?_⟩
    exact fun ho => hlen ▸ Nat.le_antisymm hk (Nat.le_of_sub_eq_zero (h2 ho))
  · refine ⟨more ++ [unf'.map (·.2.1)], by rw [h1, hev, List.append_assoc], ?_, ?_,
      by rw [List.length_append, hlen]; exact Nat.lt_of_sub_pos hl, fun h => absurd h ho⟩
    · rw [← List.flatten_append, ← List.append_assoc, ← hev, List.flatten_append, List.flatten_singleton]
      exact hb.request hd
    · exact add more unf' hne hm hu

/-- `loop_requests` for the whole `multiwalk`, the first request being the sorted roots (singled out, so
    not read off `multiwalk_eq_loop`, where `loop_requests` would hide it in `more`) -/
theorem multiwalk_requests (fetch : Fetcher) (R : List Oid → Oid → Prop) (hadv : Advances fetch R)
    (roots0 : List Oid) (lenient : Bool) (fuel : Nat) (hd : WalkAbs.Disjoint (sortOids roots0)) :
    ∃ more : List (List Oid),
      reqsOf (multiwalk fetch roots0 lenient fuel).events = sortOids roots0 :: more ∧
      (sortOids roots0 ++ more.flatten).Nodup ∧
      (∀ q ∈ more, q ≠ [] ∧ ∀ c ∈ q, ∃ q' ∈ sortOids roots0 :: more, R q' c) ∧
      more.length ≤ fuel ∧
      ((multiwalk fetch roots0 lenient fuel).outcome = .outOfFuel → more.length = fuel) := by
  have hlt := disjoint_lt hd
  cases hf : fetch (sortOids roots0) with
  | error e =>
    rw [multiwalk_error lenient fuel hf]
    refine ⟨[], rfl, ?_, (fun _ h => nomatch h), Nat.zero_le _, ?_⟩
    · rw [List.flatten_nil, List.append_nil]
      exact pairwise_lt_nodup hlt
    · intro h
      split at h <;> cases h
  | ok out =>
    rw [multiwalk_ok lenient fuel hlt hf]
    generalize deduped (sortOids roots0) (cols (sortOids roots0) out) [] = d
    have hnext := next_columns fetch R hadv (start (sortOids roots0)) out (by simpa using hf)
    have hinv := (BInv.start (sortOids roots0)).step hd ((Placed.start _).next out) fun p' hp' => (hnext p' hp').1
    simp only [start_keys, start_cursors] at hinv hnext
    have hreqs : reqsOf ([Event.req (sortOids roots0)] ++ d.1.map .yield) = [sortOids roots0] :=
      reqsOf_step [] _ d.1
    obtain ⟨more, m1, m2, m3, m4, m5⟩ := loop_requests fetch R hadv _ lenient hd (R (sortOids roots0)) fuel _
      d.2 ([.req (sortOids roots0)] ++ d.1.map .yield)
      (by rw [hreqs]; simpa using hinv) fun p' hp' => (hnext p' hp').2
    rw [hreqs] at m1 m2
    rw [List.flatten_singleton] at m2
    refine ⟨more, m1, m2, fun q hq => ⟨(m3 q hq).1, fun c hc => ?_⟩, m4, m5⟩
    rcases (m3 q hq).2 c hc with h | ⟨q', hq', h⟩
    · exact ⟨_, List.mem_cons_self, h⟩
    · exact ⟨q', List.mem_cons_of_mem _ hq', h⟩

theorem length_le_flatten (more : List (List Oid)) (h : ∀ q ∈ more, q ≠ []) : more.length ≤ more.flatten.length := by
  induction more with
  | nil => exact Nat.le_refl 0
  | cons q more ih =>
    have hq : 0 < q.length := List.length_pos_iff.mpr (h q List.mem_cons_self)
    have := ih fun q' hq' => h q' (List.mem_cons_of_mem _ hq')
    rw [List.length_cons, List.flatten_cons, List.length_append]
    omega

/-- **Bounded, never re-requesting**, for any advancing fetcher that only reveals members of `U`. -/
theorem walk_bound (fetch : Fetcher) (R : List Oid → Oid → Prop) (hadv : Advances fetch R) (U : List Oid)
    (hU : ∀ q c, R q c → c ∈ U) (roots : List Oid) (lenient : Bool) (fuel : Nat) (hpf : PrefixFree roots) :
    let r := multiwalk fetch roots lenient fuel
    r.requests.flatten.Nodup ∧
    (∀ q ∈ r.requests.tail, ∀ c ∈ q, ∃ q' ∈ r.requests, R q' c) ∧
    r.requests.length ≤ U.length + 1 ∧
    (U.length < fuel → r.outcome ≠ .outOfFuel) := by
  intro r
  obtain ⟨more, h1, h2, h3, h4, h5⟩ := multiwalk_requests fetch R hadv roots lenient fuel (prefixFree_sorted roots hpf)
  have hreq : r.requests = sortOids roots :: more := (requests_eq r).trans h1
  have hmoreU : ∀ c ∈ more.flatten, c ∈ U := by
    intro c hc
    obtain ⟨q, hq, hcq⟩ := List.mem_flatten.mp hc
    obtain ⟨q', _, hr⟩ := (h3 q hq).2 c hcq
    exact hU q' c hr
  have hcount : more.length ≤ U.length :=
    Nat.le_trans (length_le_flatten more (fun q hq => (h3 q hq).1))
      ((List.nodup_append.mp h2).2.1.length_le_of_subset hmoreU)
  rw [hreq]
  refine ⟨by rwa [List.flatten_cons], fun q hq c hc => (h3 q hq).2 c hc, Nat.succ_le_succ hcount, ?_⟩
  intro hfuel ho
  have := h5 ho
  omega

theorem multigetnext_advances (x : Exchange) :
    Advances (multigetnext x) (fun q c => ∃ resp, x (.getnext q) = .ok resp ∧ c ∈ resp.map (·.1)) :=
  (multigetnext_ascending x).advances fun cs out hf v hv => by
    obtain ⟨resp, hx, _, rfl, _⟩ := multigetnext_ok_iff.mp hf
    exact ⟨resp, hx, List.mem_map_of_mem ((List.takeWhile_sublist _).subset hv)⟩

theorem completeRow_mem (x : Exchange) (cs : List Oid) (P : VarBind → Prop)
    (hP : ∀ m q resp, x (.getbulk 0 m q) = .ok resp → ∀ v ∈ resp, P v) :
    ∀ (fuel : Nat) (vbs r : List VarBind), completeRow x cs fuel vbs = .ok r → (∀ v ∈ vbs, P v) → ∀ v ∈ r, P v := by
  intro fuel
  induction fuel with
  | zero =>
    intro vbs r h hv
    exact Except.ok.inj h ▸ hv
  | succ fuel ih =>
    intro vbs r h hv
    rw [completeRow] at h
    split at h
    · cases hb : bulkVarbinds x [] (cs.drop vbs.length) 1 with
      | error e => rw [hb] at h; cases h
      | ok missing =>
        simp only [hb, bind, Except.bind] at h
        split at h
        · exact Except.ok.inj h ▸ hv
        · exact ih _ _ h fun v hvm => (List.mem_append.mp hvm).elim (hv v)
            (hP 1 _ missing (bulkVarbinds_ok_iff.mp hb).1 v)
    · exact Except.ok.inj h ▸ hv

theorem bulkFetcher_advances (x : Exchange) (size : Nat) (U : List Oid)
    (hU : ∀ m q resp, x (.getbulk 0 m q) = .ok resp → ∀ vb ∈ resp, vb.1 ∈ U) :
    Advances (bulkFetcher x size) (fun _ c => c ∈ U) :=
  (bulkFetcher_ascending x size).advances fun cs out hf v hv => by
    obtain ⟨first, vbs, hb, hc, rfl, _⟩ := bulkFetcher_ok_iff.mp hf
    exact completeRow_mem x cs (fun v => v.1 ∈ U) hU cs.length first vbs hc
      (fun w hw => hU size cs first ((bulkVarbinds_ok_iff.mp hb).1) w hw) v
      ((List.takeWhile_sublist _).subset hv)

/-- `Advances` where all that is recorded of a returned OID is that it belongs to `U` -/
def Advancing (fetch : Fetcher) (U : List Oid) : Prop :=
  ∀ (cs : List Oid) (out : List VarBind), fetch cs = .ok out →
    (∀ i (hi : i < cs.length), ∀ v ∈ Py.stride out i cs.length, cs[i] < v.1) ∧ (∀ v ∈ out, v.1 ∈ U)

/-- `loop_requests` for such a fetcher, started from cursors in `U` -/
theorem loop_bound_gen (fetch : Fetcher) (U : List Oid) (hadv : Advancing fetch U) (roots : List Oid)
    (lenient : Bool) (hd : WalkAbs.Disjoint roots) :
    ∀ (fuel : Nat) (unf : List (Oid × VarBind)) (yielded : List Oid) (ev : List Event),
      BInv roots unf (reqsOf ev).flatten → (∀ p ∈ unf, p.2.1 ∈ U) →
      ∃ more : List (List Oid),
        reqsOf (loop fetch roots lenient fuel unf yielded ev).events = reqsOf ev ++ more ∧
        ((reqsOf ev).flatten ++ more.flatten).Nodup ∧
        (∀ q ∈ more, q ≠ [] ∧ ∀ c ∈ q, c ∈ U) ∧
        more.length ≤ fuel ∧
        ((loop fetch roots lenient fuel unf yielded ev).outcome = .outOfFuel → more.length = fuel) := by
  intro fuel unf yielded ev hi hU
  obtain ⟨more, h1, h2, h3, h4, h5⟩ := loop_requests fetch (fun _ c => c ∈ U) hadv roots lenient hd (· ∈ U)
    fuel unf yielded ev hi hU
  exact ⟨more, h1, h2, fun q hq => ⟨(h3 q hq).1, fun c hc => ((h3 q hq).2 c hc).elim id (fun ⟨_, _, h⟩ => h)⟩, h4, h5⟩

end Snmp.Walk
