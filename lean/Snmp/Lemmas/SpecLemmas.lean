/-
  The specification reader reads back what the x690 mirror writes: lengths, TLVs, sequences,
  integers, OIDs.
-/
import Snmp.Lemmas.BerInt
import Snmp.Lemmas.BerOid
namespace Snmp.Spec
open Snmp.Ber

open Snmp.Reenc (formOf formOf_ok encodeLength_formOf tlv_eq_spec norm norm_bytes)

theorem readLength_specLength (f : LenForm) (n : Nat) (hf : f.ok n) (rest : Bytes) :
    readLength (specLength f n ++ rest) = some (n, rest) := by
  rcases specLength_cases f n hf with ⟨h, e⟩ | ⟨ds, e, h1, h2, rfl⟩ <;> rw [e]
  · simp [readLength, h]
  · have h4 : ¬ (128 + ds.length < 128) := by omega
    have h5 : 128 + ds.length < 255 := by omega
    have hne : ds ≠ [] := List.ne_nil_of_length_pos h1
    simp [readLength, h4, h5, hne]

theorem readTLV_spec (f : LenForm) (t : Nat) (c rest : Bytes) (hf : f.ok c.length) :
    readTLV (Spec.tlv f t c ++ rest) = some (t, c, rest) := by
  simp only [Spec.tlv, List.cons_append, List.append_assoc, readTLV]
  rw [readLength_specLength f c.length hf (c ++ rest)]
  simp

theorem readAll_raw : ∀ (xs : List RawTlv), (∀ x ∈ xs, x.f.ok x.c.length) → ∀ (fuel : Nat), xs.length < fuel →
    readAll fuel (rawBytes xs) = some (xs.map fun x => (x.t, x.c))
  | [], _, fuel + 1, _ => by simp [readAll, rawBytes]
  | x :: xs, h, fuel + 1, hf => by
    rw [readAll]
    · simp only [rawBytes, RawTlv.bytes]
      rw [readTLV_spec x.f x.t x.c _ (List.forall_mem_cons.mp h).1]
      simp only
      rw [readAll_raw xs (List.forall_mem_cons.mp h).2 fuel (Nat.lt_of_succ_lt_succ hf)]
      rfl
    · simp [rawBytes, RawTlv.bytes, Spec.tlv]

theorem readSeq_raw (xs : List RawTlv) (h : ∀ x ∈ xs, x.f.ok x.c.length) :
    readSeq (rawBytes xs) = some (xs.map fun x => (x.t, x.c)) :=
  readAll_raw xs h _ (Nat.lt_succ_of_le (rawBytes_length_ge xs))

theorem readTLV_tlv (t : Nat) (c rest : Bytes) (hc : Small c.length) :
    readTLV (Ber.tlv t c ++ rest) = some (t, c, rest) := by
  rw [tlv_eq_spec]
  exact readTLV_spec _ t c rest (formOf_ok _ hc)

theorem readTLV_tlv_nil (t : Nat) (c : Bytes) (hc : Small c.length) : readTLV (Ber.tlv t c) = some (t, c, []) :=
  List.append_nil (Ber.tlv t c) ▸ readTLV_tlv t c [] hc

theorem readSeq_norm (items : List (Nat × Bytes)) (h : ∀ p ∈ items, Small p.2.length) :
    readSeq (rawBytes (items.map fun p => norm p.1 p.2)) = some items := by
  rw [readSeq_raw]
  · simp [norm, List.map_map, Function.comp_def]
  · intro x hx
    obtain ⟨p, hp, rfl⟩ := List.mem_map.mp hx
    exact formOf_ok _ (h p hp)

theorem rawBytes_norm : ∀ l : List (Nat × Bytes),
    rawBytes (l.map fun p => norm p.1 p.2) = (l.map fun p => Ber.tlv p.1 p.2).flatten
  | [] => rfl
  | p :: ps => by simp only [List.map_cons, rawBytes, norm_bytes, rawBytes_norm ps, List.flatten_cons]

theorem readSeq_concat (items : List (Nat × Bytes)) (h : ∀ p ∈ items, Small p.2.length) :
    readSeq (items.map (fun p => Ber.tlv p.1 p.2)).flatten = some items := by
  rw [← rawBytes_norm, readSeq_norm items h]

/-- the generated registry searched by class name: the identifier octet each class is written with -/
theorem tag_facts :
    tagOf "Integer" = 2 ∧ tagOf "OctetString" = 4 ∧ tagOf "ObjectIdentifier" = 6 ∧ tagOf "IpAddress" = 64 ∧
    tagOf "Counter" = 65 ∧ tagOf "Gauge" = 66 ∧ tagOf "TimeTicks" = 67 ∧ tagOf "Opaque" = 68 ∧
    tagOf "NsapAddress" = 69 ∧ tagOf "Counter64" = 70 ∧ tagOf "Sequence" = 48 := by decide +kernel

theorem tagOf_int : tagOf "Integer" = 2 := tag_facts.1
theorem tagOf_str : tagOf "OctetString" = 4 := tag_facts.2.1
theorem tagOf_oid : tagOf "ObjectIdentifier" = 6 := tag_facts.2.2.1
theorem tagOf_seq : tagOf "Sequence" = 48 := tag_facts.2.2.2.2.2.2.2.2.2.2

theorem request_tags : tagOf "GetRequest" = 160 ∧ tagOf "GetNextRequest" = 161 ∧ tagOf "SetRequest" = 163 ∧
    tagOf "BulkGetRequest" = 165 := by decide +kernel

theorem readInt_intEncode (v : Int) : readInt (intEncode v) = some v := by
  simp [readInt, intEncode_ne_nil, intDecode_intEncode]

theorem readSubids_hi (b acc : Nat) (p : Bool) (rest : Bytes) (h : 128 ≤ b) :
    readSubids (b :: rest) acc p = readSubids rest (acc * 128 + (b - 128)) true := by
  rw [readSubids]; simp [h]

theorem readSubids_lo (b acc : Nat) (p : Bool) (rest : Bytes) (h : ¬ 128 ≤ b) :
    readSubids (b :: rest) acc p = (readSubids rest 0 false).map ((acc * 128 + b) :: ·) := by
  rw [readSubids]; simp [h]

/-- the two sub-identifier loops agree.  The specification's state `(acc, true)` — inside a sub-identifier,
    `acc` collected so far — is the mirror's `some acc`, and `(0, false)` — between two — is its `none`. -/
theorem readSubids_eq_go (bs : Bytes) :
    (∀ acc, readSubids bs acc true = (subidsGo bs (some acc)).toOption) ∧
    readSubids bs 0 false = (subidsGo bs none).toOption := by
  -- `b > 127` of the mirror is `128 ≤ b` of the specification by definition
  induction bs with
  | nil =>
    constructor
    · intro acc; rw [readSubids, subidsGo]; rfl
    · rw [readSubids, subidsGo]; rfl
  | cons b rest ih =>
    constructor
    · intro acc
      by_cases hb : 128 ≤ b
      · rw [readSubids_hi _ _ _ _ hb, subidsGo_some_hi _ _ _ hb, ih.1]
      · rw [readSubids_lo _ _ _ _ hb, subidsGo_some_lo _ _ _ hb, ih.2, Except.toOption_map]
    · by_cases hb : 128 ≤ b
      · rw [readSubids_hi _ _ _ _ hb, subidsGo_none_hi _ _ hb, ih.1, Nat.zero_mul, Nat.zero_add]
      · rw [readSubids_lo _ _ _ _ hb, subidsGo_none_lo _ _ hb, ih.2, Except.toOption_map, Nat.zero_mul, Nat.zero_add]

/-- **the two OID readers agree** on content whose first octet is below 120 (first arc ≤ 2, second
    arc < 40): there x690's `// 40`, `% 40` is the split X.690 8.19 prescribes -/
theorem readOid_eq_oidDecode (c : Bytes) (hdom : ∀ d0 rest, c = d0 :: rest → d0 < 120) :
    readOid c = (oidDecode c).toOption := by
  cases c with
  | nil => rfl
  | cons d0 rest =>
    have hd := hdom d0 rest rfl
    rw [readOid, oidDecode, subidsDecode, readSubids_lo _ _ _ _ (by omega), (readSubids_eq_go rest).2]
    cases subidsGo rest none with
    | error e => rfl
    | ok l =>
      simp only [Except.toOption, Option.map_some, Nat.zero_mul, Nat.zero_add, Except.map]
      -- `d0 % 40 = d0 - 40 * (d0 / 40)`, and `d0 / 40` is 0, 1 or 2 with the reader's thresholds
      rw [Nat.mod_def]
      by_cases h40 : d0 < 40
      · rw [if_pos h40, Nat.div_eq_of_lt h40]; rfl
      · by_cases h80 : d0 < 80
        · rw [if_neg h40, if_pos h80, Nat.div_eq_of_lt_le (k := 1) (by omega) (by omega)]
        · rw [if_neg h40, if_neg h80, Nat.div_eq_of_lt_le (k := 2) (by omega) (by omega)]

theorem oidDecode_of_readOid (c : Bytes) (o : Oid) (hdom : ∀ d0 rest, c = d0 :: rest → d0 < 120)
    (h : readOid c = some o) : oidDecode c = .ok o :=
  Except.eq_ok_of_toOption (readOid_eq_oidDecode c hdom ▸ h)

theorem readOid_oidEncode (o : Oid) (h : OidDom o) : ∃ bs, oidEncode o = some bs ∧ readOid bs = some o := by
  rcases h with ⟨a, b, rest, rfl, ha, hb⟩
  refine ⟨_, oidEncode_dom rest ha hb, ?_⟩
  rw [readOid_eq_oidDecode _ (fun d0 _ h => by cases h; omega), oidDecode_packed a rest hb]
  rfl

end Snmp.Spec
