/-
  `Walk.loop` and `Walk.multiwalk` case by case, and the invariant rule: whatever the fetcher, a
  property of (cursors, yielded set, events) kept by every iteration that continues holds in the
  state in which the loop stops (`loop_ends`); with pairwise disjoint roots the regrouping is `cols`
  and cannot fail (`loop_ends_disjoint`).
-/
import Snmp.Lemmas.WalkGroup
namespace Snmp.Walk
open Snmp

def yieldOids (evs : List Event) : List Oid :=
  evs.filterMap fun | .yield vb => some vb.1 | _ => none

def yieldsOf (evs : List Event) : List VarBind :=
  evs.filterMap fun | .yield vb => some vb | _ => none

def reqsOf (evs : List Event) : List (List Oid) :=
  evs.filterMap fun | .req o => some o | _ => none

theorem yieldOids_eq (evs : List Event) : yieldOids evs = (yieldsOf evs).map (·.1) := by
  unfold yieldOids yieldsOf
  rw [List.map_filterMap]
  congr 1
  funext e
  cases e <;> rfl

theorem yields_eq (r : Result) : r.yields = yieldsOf r.events := rfl

theorem requests_eq (r : Result) : r.requests = reqsOf r.events := rfl

theorem yieldOids_step (ev : List Event) (q : List Oid) (ys : List VarBind) :
    yieldOids (ev ++ [.req q] ++ ys.map .yield) = yieldOids ev ++ ys.map (·.1) := by
  simp [yieldOids, Function.comp_def]

theorem yieldsOf_step (ev : List Event) (q : List Oid) (ys : List VarBind) :
    yieldsOf (ev ++ [.req q] ++ ys.map .yield) = yieldsOf ev ++ ys := by
  simp [yieldsOf, Function.comp_def]

theorem reqsOf_step (ev : List Event) (q : List Oid) (ys : List VarBind) :
    reqsOf (ev ++ [.req q] ++ ys.map .yield) = reqsOf ev ++ [q] := by
  simp [reqsOf]

theorem yieldOids_next {ev : List Event} {y : List Oid} (he : yieldOids ev = y) (roots q : List Oid) (g : Groups) :
    yieldOids (ev ++ [.req q] ++ (deduped roots g y).1.map .yield) = (deduped roots g y).2 := by
  obtain ⟨new, h, _⟩ := deduped_spec roots g y
  rw [yieldOids_step, he, h]

theorem loop_nil (fetch : Fetcher) (roots : List Oid) (lenient : Bool) (fuel : Nat) (yielded : List Oid)
    (ev : List Event) : loop fetch roots lenient fuel [] yielded ev = ⟨ev, .done⟩ := by
  cases fuel <;> rfl

def onError (lenient : Bool) (e : Err) : Outcome :=
  if isNoSuchOid e then .done else if e == .faulty && lenient then .done else .error e

theorem onError_ne (lenient : Bool) (e : Err) : onError lenient e ≠ .outOfFuel := by
  unfold onError; split
  · simp
  · split <;> simp

section
variable {fetch : Fetcher} {roots : List Oid} {unf : List (Oid × VarBind)} (hne : unf ≠ [])
include hne

theorem loop_zero (lenient : Bool) (yielded : List Oid) (ev : List Event) :
    loop fetch roots lenient 0 unf yielded ev = ⟨ev, .outOfFuel⟩ := by
  cases unf with
  | nil => exact absurd rfl hne
  | cons _ _ => rfl

theorem loop_error (lenient : Bool) (fuel : Nat) (yielded : List Oid) (ev : List Event) {e : Err}
    (hf : fetch (unf.map (·.2.1)) = .error e) :
    loop fetch roots lenient (fuel + 1) unf yielded ev =
      ⟨ev ++ [.req (unf.map (·.2.1))], onError lenient e⟩ := by
  rw [loop]
  simp only [List.isEmpty_eq_false_iff.mpr hne, Bool.false_eq_true, ↓reduceIte, hf, onError]
  cases isNoSuchOid e <;> cases (e == Err.faulty && lenient) <;> rfl

theorem loop_group_error (lenient : Bool) (fuel : Nat) (yielded : List Oid) (ev : List Event)
    {vbs : List VarBind} {e : Err} (hf : fetch (unf.map (·.2.1)) = .ok vbs)
    (hg : groupVarbinds vbs (unf.map (·.2.1)) roots = .error e) :
    loop fetch roots lenient (fuel + 1) unf yielded ev = ⟨ev ++ [.req (unf.map (·.2.1))], .error e⟩ := by
  rw [loop]
  simp only [List.isEmpty_eq_false_iff.mpr hne, Bool.false_eq_true, ↓reduceIte, hf, hg]

theorem loop_ok (lenient : Bool) (fuel : Nat) (yielded : List Oid) (ev : List Event)
    {vbs : List VarBind} {g : Groups} (hf : fetch (unf.map (·.2.1)) = .ok vbs)
    (hg : groupVarbinds vbs (unf.map (·.2.1)) roots = .ok g) :
    loop fetch roots lenient (fuel + 1) unf yielded ev =
      loop fetch roots lenient fuel (unfinished g) (deduped roots g yielded).2
        (ev ++ [.req (unf.map (·.2.1))] ++ (deduped roots g yielded).1.map .yield) := by
  rw [loop]
  simp only [List.isEmpty_eq_false_iff.mpr hne, Bool.false_eq_true, ↓reduceIte, hf, hg]

end

/-- the ways the loop returns `r` from a state with cursors `unf`, events `ev` and `left` iterations
    of budget: nothing to continue from; the budget is used up; the fetch or the regrouping failed -/
def Stops (fetch : Fetcher) (roots : List Oid) (unf : List (Oid × VarBind)) (ev : List Event) (left : Nat)
    (r : Result) : Prop :=
  (unf = [] ∧ r = ⟨ev, .done⟩) ∨
  (unf ≠ [] ∧ left = 0 ∧ r = ⟨ev, .outOfFuel⟩) ∨
  (unf ≠ [] ∧ 0 < left ∧ r.events = ev ++ [.req (unf.map (·.2.1))] ∧ r.outcome ≠ .outOfFuel ∧
    ∀ vbs g, fetch (unf.map (·.2.1)) = .ok vbs → groupVarbinds vbs (unf.map (·.2.1)) roots ≠ .ok g)

/-- **Invariant rule for the walk loop**, any fetcher: a property of `(iteration count, cursors,
    yielded set, events)` kept by every iteration that continues holds in the state in which the
    loop stops, after `k ≤ fuel` iterations.  The count lets an invariant speak of the budget left
    (`fuel - n`, completeness) or of the number of requests made (the request bound). -/
theorem loop_ends (fetch : Fetcher) (roots : List Oid) (lenient : Bool)
    (I : Nat → List (Oid × VarBind) → List Oid → List Event → Prop)
    (hstep : ∀ n unf y ev vbs g, I n unf y ev → unf ≠ [] →
      fetch (unf.map (·.2.1)) = .ok vbs → groupVarbinds vbs (unf.map (·.2.1)) roots = .ok g →
      I (n + 1) (unfinished g) (deduped roots g y).2
        (ev ++ [.req (unf.map (·.2.1))] ++ (deduped roots g y).1.map .yield)) :
    ∀ (fuel n : Nat) (unf : List (Oid × VarBind)) (y : List Oid) (ev : List Event), I n unf y ev →
      ∃ k unf' y' ev', k ≤ fuel ∧ I (n + k) unf' y' ev' ∧
        Stops fetch roots unf' ev' (fuel - k) (loop fetch roots lenient fuel unf y ev) := by
  intro fuel
  induction fuel with
  | zero =>
    intro n unf y ev hi
    refine ⟨0, unf, y, ev, Nat.le_refl _, hi, ?_⟩
    by_cases hne : unf = []
    · subst hne; exact Or.inl ⟨rfl, loop_nil ..⟩
    · exact Or.inr (Or.inl ⟨hne, rfl, loop_zero hne ..⟩)
  | succ fuel ih =>
    intro n unf y ev hi
    by_cases hne : unf = []
    · subst hne; exact ⟨0, [], y, ev, Nat.zero_le _, hi, Or.inl ⟨rfl, loop_nil ..⟩⟩
    · -- the two ways an iteration fails
      have stop : ∀ o, o ≠ Outcome.outOfFuel →
          (∀ vbs g, fetch (unf.map (·.2.1)) = .ok vbs → groupVarbinds vbs (unf.map (·.2.1)) roots ≠ .ok g) →
          Stops fetch roots unf ev (fuel + 1 - 0) ⟨ev ++ [.req (unf.map (·.2.1))], o⟩ :=
        fun o ho hbad => Or.inr (Or.inr ⟨hne, Nat.succ_pos _, rfl, ho, hbad⟩)
      cases hf : fetch (unf.map (·.2.1)) with
      | error e =>
        rw [loop_error hne _ _ _ _ hf]
        exact ⟨0, unf, y, ev, Nat.zero_le _, hi, stop _ (onError_ne _ _) (fun _ _ h => nomatch hf.symm.trans h)⟩
      | ok vbs =>
        cases hg : groupVarbinds vbs (unf.map (·.2.1)) roots with
        | error e =>
          rw [loop_group_error hne _ _ _ _ hf hg]
          refine ⟨0, unf, y, ev, Nat.zero_le _, hi, stop _ (fun h => nomatch h) fun vbs' g h => ?_⟩
          cases hf.symm.trans h
          exact fun h => nomatch hg.symm.trans h
        | ok g =>
          rw [loop_ok hne _ _ _ _ hf hg]
          obtain ⟨k, unf', y', ev', hk, hi', hs⟩ := ih (n + 1) _ _ _ (hstep n unf y ev vbs g hi hne hf hg)
          refine ⟨k + 1, unf', y', ev', Nat.succ_le_succ hk, by rwa [Nat.add_assoc, Nat.add_comm 1 k] at hi', ?_⟩
          rwa [Nat.add_sub_add_right]

section
variable {fetch : Fetcher} {roots : List Oid} {unf : List (Oid × VarBind)} {ev : List Event} {left : Nat}
  {r : Result}

theorem Stops.yieldOids (h : Stops fetch roots unf ev left r) : yieldOids r.events = yieldOids ev := by
  rcases h with ⟨_, rfl⟩ | ⟨_, _, rfl⟩ | ⟨_, _, h, _⟩
  · rfl
  · rfl
  · rw [h]
    exact (List.filterMap_append ..).trans (List.append_nil _)

theorem Stops.nil (h : Stops fetch roots [] ev left r) : r = ⟨ev, .done⟩ := by
  rcases h with h | ⟨hne, _⟩ | ⟨hne, _⟩
  · exact h.2
  · exact absurd rfl hne
  · exact absurd rfl hne

theorem Stops.reqsOf (h : Stops fetch roots unf ev left r) :
    (reqsOf r.events = reqsOf ev ∧ (r.outcome = .outOfFuel → left = 0)) ∨
    (reqsOf r.events = reqsOf ev ++ [unf.map (·.2.1)] ∧ unf ≠ [] ∧ 0 < left ∧ r.outcome ≠ .outOfFuel) := by
  rcases h with ⟨_, rfl⟩ | ⟨_, h0, rfl⟩ | ⟨hne, hl, h, ho, _⟩
  · exact Or.inl ⟨rfl, fun h => by cases h⟩
  · exact Or.inl ⟨rfl, fun _ => h0⟩
  · exact Or.inr ⟨h ▸ List.filterMap_append .., hne, hl, ho⟩

end

/-- **The invariant rule with pairwise disjoint roots.**  Under an invariant that keeps the cursors
    well placed, the regrouping is `cols` and cannot fail: an iteration that continues is an accepted
    answer, and the loop stops for want of cursors, of budget, or because the fetch failed. -/
theorem loop_ends_disjoint (fetch : Fetcher) {roots : List Oid} (hd : WalkAbs.Disjoint roots) (lenient : Bool)
    (I : Nat → List (Oid × VarBind) → List Oid → List Event → Prop)
    (hplaced : ∀ {n unf y ev}, I n unf y ev → Placed roots unf)
    (hstep : ∀ n unf y ev vbs, I n unf y ev → unf ≠ [] → fetch (unf.map (·.2.1)) = .ok vbs →
      I (n + 1) (live (cols (unf.map (·.1)) vbs)) (deduped roots (cols (unf.map (·.1)) vbs) y).2
        (ev ++ [.req (unf.map (·.2.1))] ++ (deduped roots (cols (unf.map (·.1)) vbs) y).1.map .yield))
    (fuel n : Nat) (unf : List (Oid × VarBind)) (y : List Oid) (ev : List Event) (hi : I n unf y ev) :
    ∃ k unf' y' ev', k ≤ fuel ∧ I (n + k) unf' y' ev' ∧
      Stops fetch roots unf' ev' (fuel - k) (loop fetch roots lenient fuel unf y ev) ∧
      (unf' ≠ [] → ∀ vbs, fetch (unf'.map (·.2.1)) = .ok vbs → fuel - k = 0) := by
  obtain ⟨k, unf', y', ev', hk, hi', hs⟩ := loop_ends fetch roots lenient I
    (by
      intro n unf y ev vbs g hi hne hf hg
      rw [group_cursors hd (hplaced hi) hne] at hg
      cases hg
      rw [unfinished_cols ((hplaced hi).keys_lt hd)]
      exact hstep n unf y ev vbs hi hne hf)
    fuel n unf y ev hi
  refine ⟨k, unf', y', ev', hk, hi', hs, fun hne vbs hf => ?_⟩
  rcases hs with ⟨h, _⟩ | ⟨_, h0, _⟩ | ⟨_, _, _, _, hbad⟩
  · exact absurd h hne
  · exact h0
  · exact absurd (group_cursors hd (hplaced hi') hne vbs) (hbad vbs _ hf)

/-- the cursors a walk of `roots` starts from: every root is its own cursor -/
def start (roots : List Oid) : List (Oid × VarBind) := roots.map fun r => (r, (r, Val.null))

@[simp] theorem start_keys (roots : List Oid) : (start roots).map (·.1) = roots := by
  simp [start, Function.comp_def]

@[simp] theorem start_cursors (roots : List Oid) : (start roots).map (·.2.1) = roots := by
  simp [start, Function.comp_def]

theorem Placed.start (roots : List Oid) : Placed roots (start roots) :=
  ⟨by simp, fun p hp => by obtain ⟨r, _, rfl⟩ := List.mem_map.mp hp; exact List.prefix_refl _⟩

theorem multiwalk_error {fetch : Fetcher} {roots0 : List Oid} {e : Err} (lenient : Bool) (fuel : Nat)
    (hf : fetch (sortOids roots0) = .error e) :
    multiwalk fetch roots0 lenient fuel =
      ⟨[.req (sortOids roots0)], if (e == .faulty && lenient) = true then .done else .error e⟩ := by
  unfold multiwalk
  simp only [hf]
  split <;> rfl

/-- after an accepted first answer `multiwalk` is the loop, entered as if that answer had been
    fetched for `start (sortOids roots0)` -/
theorem multiwalk_ok {fetch : Fetcher} {roots0 : List Oid} {vbs : List VarBind} (lenient : Bool) (fuel : Nat)
    (hlt : (sortOids roots0).Pairwise (· < ·)) (hf : fetch (sortOids roots0) = .ok vbs) :
    multiwalk fetch roots0 lenient fuel =
      loop fetch (sortOids roots0) lenient fuel
        (live (cols (sortOids roots0) vbs))
        (deduped (sortOids roots0) (cols (sortOids roots0) vbs) []).2
        ([.req (sortOids roots0)] ++ (deduped (sortOids roots0) (cols (sortOids roots0) vbs) []).1.map .yield) := by
  unfold multiwalk
  simp only [hf, groupVarbinds_first vbs _ (pairwise_lt_nodup hlt)]
  rw [unfinished_cols hlt]

theorem multiwalk_nil {fetch : Fetcher} {roots0 : List Oid} {vbs : List VarBind} (lenient : Bool) (fuel : Nat)
    (h : sortOids roots0 = []) (hf : fetch [] = .ok vbs) :
    multiwalk fetch roots0 lenient fuel = ⟨[.req []], .done⟩ := by
  rw [multiwalk_ok lenient fuel (by rw [h]; exact .nil) (by rw [h]; exact hf), h]
  simp [cols, live, loop_nil, deduped]

/-- with pairwise disjoint roots the first request is an iteration like any other: `multiwalk` is the
    loop entered with every root as its own cursor and one more iteration of budget -/
theorem multiwalk_eq_loop {fetch : Fetcher} {roots0 : List Oid} {vbs : List VarBind} (lenient : Bool) (fuel : Nat)
    (hd : WalkAbs.Disjoint (sortOids roots0)) (hne : sortOids roots0 ≠ []) (hf : fetch (sortOids roots0) = .ok vbs) :
    multiwalk fetch roots0 lenient fuel =
      loop fetch (sortOids roots0) lenient (fuel + 1) (start (sortOids roots0)) [] [] := by
  have hne' : start (sortOids roots0) ≠ [] := by simpa [start] using hne
  rw [loop_ok hne' lenient fuel [] [] (by simpa using hf)
      (group_cursors hd (Placed.start _) hne' vbs),
    multiwalk_ok lenient fuel (disjoint_lt hd) hf, unfinished_cols (by simpa using disjoint_lt hd)]
  simp only [start_keys, start_cursors, List.nil_append]

end Snmp.Walk
