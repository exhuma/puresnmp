/-
  What `bulkVarbinds`, `completeRow`, `bulkFetcher` and `multigetnext` compute, whatever exchange is
  behind them, and the per-column successor check `checkColumns` in closed form (`checkColumns_iff`,
  stated with `Lag`): every column `response[i::n]` of an accepted answer ascends strictly from the
  `i`-th requested OID (`cc_chain`, `Ascending`).
-/
import Snmp.Model.Walk
import Snmp.Lemmas.Stride
namespace Snmp.Walk
open Snmp

/-- a GETBULK without non-repeaters: the exchange's answer, refused when it holds more than `m`
    repetitions (`Gen.bulkBound`, computed once here) -/
theorem bulkVarbinds_ok_iff {x : Exchange} {q : List Oid} {m : Nat} {r : List VarBind} :
    bulkVarbinds x [] q m = .ok r ↔ x (.getbulk 0 m q) = .ok r ∧ r.length ≤ m * q.length := by
  -- without non-repeaters the generated bound `min 0 R + M · max (R - min 0 R) 0` is `M · R`
  have hb : Gen.bulkBound ((0 : Nat) : Int) (q.length : Int) (m : Int) = ((m * q.length : Nat) : Int) := by
    have hq : (0 : Int) ≤ q.length := Int.natCast_nonneg _
    simp only [Gen.bulkBound, Int.natCast_zero, Int.min_eq_left hq, Int.sub_zero, Int.max_eq_left hq, Int.zero_add,
      Int.natCast_mul]
  unfold bulkVarbinds
  simp only [List.nil_append, List.length_nil, hb, gt_iff_lt, Int.ofNat_lt]
  cases hx : x (.getbulk 0 m q) with
  | error e => exact ⟨(nomatch ·), fun h => nomatch h.1⟩
  | ok resp =>
    show (if m * q.length < resp.length then _ else _) = _ ↔ _
    by_cases hlen : m * q.length < resp.length
    · rw [if_pos hlen]
      exact ⟨(nomatch ·), fun h => absurd (Except.ok.inj h.1 ▸ h.2) (Nat.not_le_of_lt hlen)⟩
    · rw [if_neg hlen]
      exact ⟨fun h => ⟨h, Except.ok.inj h ▸ Nat.le_of_not_lt hlen⟩, fun h => h.1⟩

theorem completeRow_stop (x : Exchange) (oids : List Oid) (fuel : Nat) (vbs : List VarBind)
    (h : ¬ (0 < vbs.length ∧ vbs.length < oids.length ∧ vbs.all notEom = true)) :
    completeRow x oids fuel vbs = .ok vbs := by
  cases fuel with
  | zero => rfl
  | succ f =>
    rw [completeRow, if_neg (by simpa only [Bool.and_eq_true, decide_eq_true_eq, and_assoc] using h)]
    rfl

theorem completeRow_step (x : Exchange) (oids : List Oid) (fuel : Nat) {vbs missing : List VarBind}
    (h0 : 0 < vbs.length) (h1 : vbs.length < oids.length) (h2 : vbs.all notEom = true)
    (hb : bulkVarbinds x [] (oids.drop vbs.length) 1 = .ok missing) :
    completeRow x oids (fuel + 1) vbs =
      if missing.isEmpty then .ok vbs else completeRow x oids fuel (vbs ++ missing) := by
  rw [completeRow, if_pos (by simp only [Bool.and_eq_true, decide_eq_true_eq]; exact ⟨⟨h0, h1⟩, h2⟩), hb]
  rfl

theorem bulkFetcher_ok_iff {x : Exchange} {size : Nat} {cs : List Oid} {out : List VarBind} :
    bulkFetcher x size cs = .ok out ↔
    ∃ first vbs, bulkVarbinds x [] cs size = .ok first ∧ completeRow x cs cs.length first = .ok vbs ∧
      out = vbs.takeWhile notEom ∧ checkColumns cs.length cs 0 out = true := by
  constructor
  · intro h
    unfold bulkFetcher at h
    simp only [bind, Except.bind] at h
    cases hb : bulkVarbinds x [] cs size with
    | error e => simp [hb] at h
    | ok first =>
      cases hc : completeRow x cs cs.length first with
      | error e => simp [hb, hc] at h
      | ok vbs =>
        simp only [hb, hc] at h
        split at h
        · rename_i hcc
          cases h
          exact ⟨first, vbs, rfl, hc, rfl, hcc⟩
        · cases h
  · rintro ⟨first, vbs, hb, hc, rfl, hcc⟩
    unfold bulkFetcher
    simp only [bind, Except.bind, hb, hc, hcc, ↓reduceIte]
    rfl

theorem add_mod_ne {n i d : Nat} (h0 : 0 < d) (hd : d < n) : (i + d) % n ≠ i % n := fun h => by
  -- equal residues would make `n` divide the difference `d`
  have := Nat.sub_mod_eq_zero_of_mod_eq h
  rw [Nat.add_sub_cancel_left, Nat.mod_eq_of_lt hd] at this
  exact Nat.ne_of_gt h0 this

/-- `out` follows `prev` under `R`: every binding is `R`-related to the entry `prev.length` places
    before it in `prev ++ out` — the requested OID in the first repetition, the binding of the same
    column in the repetition before afterwards.  The per-column check says it of `<`
    (`checkColumns_iff`), a conformant agent's answer has it of "is the database successor of"
    (`kept_succ`). -/
def Lag (R : Oid → VarBind → Prop) (prev : List Oid) (out : List VarBind) : Prop :=
  ∀ (j : Nat) p (v : VarBind), (prev ++ out.map (·.1))[j]? = some p → out[j]? = some v → R p v

theorem prefix_getElem? {α} {l₁ l₂ : List α} (h : l₁ <+: l₂) {j : Nat} {v : α} (hv : l₁[j]? = some v) :
    l₂[j]? = some v := by
  obtain ⟨t, rfl⟩ := h
  rw [List.getElem?_append_left (List.getElem?_eq_some_iff.mp hv).1, hv]

section
variable {R R' : Oid → VarBind → Prop} {prev : List Oid} {out out' : List VarBind}

theorem Lag.mono (h : Lag R prev out) (hR : ∀ p v, R p v → R' p v) : Lag R' prev out :=
  fun j p v hp hv => hR p v (h j p v hp hv)

theorem Lag.prefix (h : Lag R prev out) (hpre : out' <+: out) : Lag R prev out' := fun j p v hp hv =>
  h j p v (prefix_getElem? ((List.prefix_append_right_inj prev).mpr (hpre.map (·.1))) hp) (prefix_getElem? hpre hv)

theorem Lag.column (h : Lag R prev out) (i : Nat) (hi : i < prev.length) :
    Lag R [prev[i]] (Py.stride out i prev.length) := by
  intro j p v hp hv
  rw [List.singleton_append, stride_col_getElem? (·.1) prev out i j hi] at hp
  rw [stride_getElem? _ _ _ _ (Nat.zero_lt_of_lt hi)] at hv
  exact h _ p v hp hv

end

/-- `checkColumns` keeps in `w` the last OID of every column.  Read round-robin from position `i`,
    `w` is the last `n` entries of `S`, the requested OIDs followed by the `i` bindings accepted so
    far; accepting a binding overwrites the oldest entry and moves the window on by one. -/
theorem checkColumns_window (n : Nat) (hn : 0 < n) : ∀ (out : List VarBind) (w : List Oid) (i : Nat) (S : List Oid),
    w.length = n → S.length = i + n → (∀ c, c < n → w[(i + c) % n]? = S[i + c]?) →
    (checkColumns n w i out = true ↔
      ∀ (j : Nat) p (v : VarBind), (S ++ out.map (·.1))[i + j]? = some p → out[j]? = some v → p < v.1) := by
  intro out
  induction out with
  | nil => exact fun _ _ _ _ _ _ => ⟨fun _ _ _ _ _ hv => (nomatch hv), fun _ => rfl⟩
  | cons vb rest ih =>
    intro w i S hw hS hwin
    have hiS : i < S.length := hS ▸ Nat.lt_add_of_pos_right hn
    have h0 : w[i % n]? = some (S[i]'hiS) := by
      rw [← List.getElem?_eq_getElem]; exact hwin 0 hn
    have hwin' : ∀ c, c < n → (w.set (i % n) vb.1)[(i + 1 + c) % n]? = (S ++ [vb.1])[i + 1 + c]? := by
      intro c hc
      rw [Nat.add_assoc, Nat.add_comm 1 c]
      by_cases hlast : c + 1 = n
      · rw [hlast, Nat.add_mod_right, List.getElem?_set_self (by rw [hw]; exact Nat.mod_lt _ hn), ← hS,
          List.getElem?_append_right (Nat.le_refl _), Nat.sub_self]; rfl
      · have hc1 : c + 1 < n := Nat.lt_of_le_of_ne hc hlast
        rw [List.getElem?_set_ne (add_mod_ne (Nat.succ_pos c) hc1).symm, hwin (c + 1) hc1,
          List.getElem?_append_left (by rw [hS]; exact Nat.add_lt_add_left hc1 i)]
    have ih := ih (w.set (i % n) vb.1) (i + 1) (S ++ [vb.1]) (by rw [List.length_set, hw])
      (by rw [List.length_append, hS, List.length_singleton, Nat.add_right_comm]) hwin'
    -- `vb` is compared with `S[i]`; position `j` of `rest` is position `j + 1` of `vb :: rest`
    have head : (S ++ (vb :: rest).map (·.1))[i + 0]? = some (S[i]'hiS) := by
      rw [Nat.add_zero, List.getElem?_append_left hiS, List.getElem?_eq_getElem hiS]
    have shift : ∀ j : Nat, (S ++ [vb.1] ++ rest.map (·.1))[i + 1 + j]? = (S ++ (vb :: rest).map (·.1))[i + (j + 1)]? :=
      fun j => by rw [List.append_assoc, Nat.add_assoc, Nat.add_comm 1]; rfl
    rw [checkColumns]
    simp only [h0]
    by_cases hlt : S[i]'hiS < vb.1
    · rw [decide_eq_true hlt, if_pos rfl, ih]
      constructor
      · intro h j p v hp hv
        cases j with
        | zero => cases head.symm.trans hp; cases hv; exact hlt
        | succ j => exact h j p v (shift j ▸ hp) hv
      · exact fun h j p v hp hv => h (j + 1) p v (shift j ▸ hp) hv
    · rw [decide_eq_false hlt]
      exact ⟨(nomatch ·), fun h => absurd (h 0 _ vb head rfl) hlt⟩

/-- **What the per-column check says**: every binding lies strictly above the entry `prev.length`
    places before it in `prev ++ out`. -/
theorem checkColumns_iff (prev : List Oid) (out : List VarBind) :
    checkColumns prev.length prev 0 out = true ↔ Lag (fun p v => p < v.1) prev out := by
  unfold Lag
  rcases Nat.eq_zero_or_pos prev.length with h0 | hn
  · -- nothing requested: a first binding would have to lie above itself
    obtain rfl := List.eq_nil_of_length_eq_zero h0
    cases out with
    | nil => exact ⟨fun _ _ _ _ _ hv => (nomatch hv), fun _ => rfl⟩
    | cons vb rest => exact ⟨(nomatch ·), fun h => absurd (h 0 vb.1 vb rfl rfl) (List.lt_irrefl _)⟩
  simpa only [Nat.zero_add] using checkColumns_window prev.length hn out prev 0 prev rfl (Nat.zero_add _).symm
    (fun c hc => by rw [Nat.zero_add, Nat.mod_eq_of_lt hc])

theorem Lag.pairwise : ∀ {c : Oid} {col : List VarBind}, Lag (fun p v => p < v.1) [c] col →
    (c :: col.map (·.1)).Pairwise (· < ·)
  | c, [], _ => List.pairwise_singleton _ c
  | c, v :: col, h => by
    have ih := Lag.pairwise (c := v.1) (col := col) fun j p w hp hw => h (j + 1) p w hp hw
    have hcv : c < v.1 := h 0 c v rfl rfl
    refine List.pairwise_cons.mpr ⟨fun d hd => ?_, ih⟩
    rcases List.mem_cons.mp hd with rfl | hd
    · exact hcv
    · exact Std.lt_trans hcv ((List.pairwise_cons.mp ih).1 d hd)

/-- **Every column of an accepted response is a strictly ascending chain that starts above the OID
    it was requested for** — any number of repetitions, a partial last one included, any agent. -/
theorem cc_chain (prev : List Oid) (out : List VarBind) (hc : checkColumns prev.length prev 0 out = true)
    (i : Nat) (hi : i < prev.length) : (prev[i] :: (Py.stride out i prev.length).map (·.1)).Pairwise (· < ·) :=
  (((checkColumns_iff prev out).mp hc).column i hi).pairwise

/-- an answer of at most one repetition: position by position -/
theorem lag_zip_iff {R : Oid → VarBind → Prop} {prev : List Oid} {out : List VarBind} (hk : out.length ≤ prev.length) :
    Lag R prev out ↔ ∀ p ∈ prev.zip out, R p.1 p.2 := by
  constructor
  · intro h pr hpr
    obtain ⟨j, hj⟩ := List.mem_iff_getElem?.mp hpr
    obtain ⟨h1, h2⟩ := List.getElem?_zip_eq_some.mp hj
    have hjl : j < prev.length := (List.getElem?_eq_some_iff.mp h1).1
    exact h j pr.1 pr.2 (by rw [List.getElem?_append_left hjl, h1]) h2
  · intro h j p v hp hv
    have hjl : j < prev.length := Nat.lt_of_lt_of_le (List.getElem?_eq_some_iff.mp hv).1 hk
    rw [List.getElem?_append_left hjl] at hp
    exact h (p, v) (List.mem_iff_getElem?.mpr ⟨j, List.getElem?_zip_eq_some.mpr ⟨hp, hv⟩⟩)

theorem checkColumns_single (prev : List Oid) (out : List VarBind) (hk : out.length ≤ prev.length) :
    checkColumns prev.length prev 0 out = (prev.zip out).all (fun p => decide (p.1 < p.2.1)) := by
  rw [Bool.eq_iff_iff, checkColumns_iff prev out, lag_zip_iff hk, List.all_eq_true]
  exact forall₂_congr fun _ _ => decide_eq_true_iff.symm

/-- one half of `cc_chain`: every column lies above its requested OID -/
theorem cc_columns (n : Nat) (hn : 0 < n) : ∀ (m : Nat) (out : List VarBind) (prev : List Oid)
    (_ : out.length ≤ m) (hlen : prev.length = n), checkColumns n prev 0 out = true →
    ∀ i (hi : i < n), ∀ v ∈ Py.stride out i n, prev[i]'(by omega) < v.1 :=
  fun _ out prev _ hlen hc i hi v hv => by
    subst hlen
    exact (List.pairwise_cons.mp (cc_chain prev out hc i hi)).1 v.1 (List.mem_map_of_mem hv)

/-- the other half of `cc_chain`: every column ascends -/
theorem cc_columns_sorted (n : Nat) (hn : 0 < n) : ∀ (m : Nat) (out : List VarBind) (prev : List Oid)
    (_ : out.length ≤ m) (hlen : prev.length = n), checkColumns n prev 0 out = true →
    ∀ i (_ : i < n), ((Py.stride out i n).map (·.1)).Pairwise (· < ·) :=
  fun _ out prev _ hlen hc i hi => by
    subst hlen
    exact (List.pairwise_cons.mp (cc_chain prev out hc i hi)).2

/-- a fetcher that accepts ascending answers only (`Ascending.chain`); nothing is asked of `fetch []` -/
def Ascending (fetch : Fetcher) : Prop :=
  ∀ (cs : List Oid) (out : List VarBind), cs ≠ [] → fetch cs = .ok out → Lag (fun p v => p < v.1) cs out

theorem Ascending.chain {fetch : Fetcher} (h : Ascending fetch) {cs : List Oid} {out : List VarBind}
    (hf : fetch cs = .ok out) (i : Nat) (hi : i < cs.length) :
    (cs[i] :: (Py.stride out i cs.length).map (·.1)).Pairwise (· < ·) :=
  ((h cs out (List.ne_nil_of_length_pos (Nat.zero_lt_of_lt hi)) hf).column i hi).pairwise

theorem bulkFetcher_ascending (x : Exchange) (size : Nat) : Ascending (bulkFetcher x size) := fun cs out _ hf =>
  let ⟨_, _, _, _, _, hcc⟩ := bulkFetcher_ok_iff.mp hf
  (checkColumns_iff cs out).mp hcc

/-- what `multigetnext` has done when it accepts: one binding per requested OID received, cut at
    the first endOfMibView, what is left lying strictly above the OID it answers -/
theorem multigetnext_ok_iff {x : Exchange} {oids : List Oid} {vbs : List VarBind} :
    multigetnext x oids = .ok vbs ↔
    ∃ resp, x (.getnext oids) = .ok resp ∧ resp.length = oids.length ∧ vbs = resp.takeWhile notEom ∧
      ∀ p ∈ oids.zip vbs, p.1 < p.2.1 := by
  unfold multigetnext
  cases hx : x (.getnext oids) with
  | error e => exact ⟨(nomatch ·), fun ⟨_, h, _⟩ => nomatch h⟩
  | ok resp =>
    -- the answer is `resp`: what is left are the length test and the pairwise test
    simp only [Except.ok.injEq, exists_eq_left']
    show (if (resp.length != oids.length) = true then _ else if _ then _ else _) = _ ↔ _
    by_cases hlen : resp.length = oids.length
    · rw [if_neg fun h => bne_iff_ne.mp h hlen]
      by_cases hall : ((oids.zip (resp.takeWhile notEom)).all fun p => decide (p.1 < p.2.1)) = true
      · rw [if_pos hall]
        exact ⟨fun h => ⟨hlen, (Except.ok.inj h).symm,
            fun p hp => of_decide_eq_true (List.all_eq_true.mp hall p (Except.ok.inj h ▸ hp))⟩,
          fun ⟨_, hv, _⟩ => hv ▸ rfl⟩
      · rw [if_neg hall]
        exact ⟨(nomatch ·), fun ⟨_, hv, hlt⟩ =>
          absurd (List.all_eq_true.mpr fun p hp => decide_eq_true (hlt p (hv ▸ hp))) hall⟩
    · rw [if_pos (bne_iff_ne.mpr hlen)]
      exact ⟨(nomatch ·), fun h => absurd h.1 hlen⟩

theorem multigetnext_ascending (x : Exchange) : Ascending (multigetnext x) := by
  intro cs out _ hf
  obtain ⟨resp, _, hlen, rfl, hlt⟩ := multigetnext_ok_iff.mp hf
  exact (lag_zip_iff (hlen ▸ (List.takeWhile_sublist _).length_le)).mpr hlt

end Snmp.Walk
