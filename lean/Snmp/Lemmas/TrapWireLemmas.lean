/-
  `register_trap_callback` from the octets on: for a message an agent writes, the forced sequence
  readout (`Sequence.decode(data)` without a look at the identifier octet) sees the same items as
  the regular decoder, so the version field selects the model and the rest is the read-back of the
  message (`Glue.msgOfBytes_writes`): `receiveWire_writes`.
-/
import Snmp.Model.TrapWire
import Snmp.Lemmas.GlueLemmas
namespace Snmp.Trap
open Snmp Snmp.Ber

theorem forced_cons (f : LenForm) (t : Nat) (items : List Enc) (h : (Enc.cons f t items).WF) (fuel depth : Nat)
    (hw : (Enc.cons f t items).width ≤ fuel) (hd : (Enc.cons f t items).depth ≤ depth + 1) :
    decodeTreeForced (Enc.cons f t items).bytes fuel depth = (Enc.treeL items).map (Tree.seq "Sequence") := by
  obtain ⟨hf, -, -, hitems⟩ := h
  have hw := Nat.max_le.mp hw
  have hd : Enc.depthL items ≤ depth := Nat.le_of_add_le_add_left (Nat.add_comm depth 1 ▸ hd)
  have hat : At (Enc.cons f t items).bytes 0 (Spec.tlv f t (Enc.bytesL items)) := At.self _
  unfold decodeTreeForced
  simp only [getValueSlice_at hat hf, bind, Except.bind, seqItems_enc hitems hat fuel hw.1,
    read_encs items hitems _ fuel depth hat.content hw.2 hd]
  cases Enc.treeL items <;> rfl

/-- **On a message an agent writes, what the listener does with the datagram is a function of the record**:
    the forced readout finds the version the agent wrote, and `mproc.decode` the whole record. -/
theorem receiveWire_writes {e : Enc} {m : Ops.RespMsg} {cls : String} (h : Glue.WritesMsg e m cls) (community : Bytes)
    (src : Source) (fuel depth : Nat) (hw : e.width ≤ fuel) (hd : e.depth ≤ depth) :
    receiveWire community src e.bytes fuel depth =
      match (if m.version = 1 then some (Ops.Proto.v2c community) else if m.version = 0 then some (.v1 community) else none) with
      | none => none
      | some pr =>
        match (do let p ← Ops.mpmDecode pr m; Ops.forcePdu p : Except Err Ops.PduResp) with
        | .error _ => none
        | .ok p => some ⟨if cls == "Trap" then some src else none, pduTagOf cls, p.varbinds⟩ := by
  have hread := Glue.msgOfBytes_writes h fuel depth hw hd
  obtain ⟨hwf, n, p, htree, -⟩ := Glue.writesMsg_tree h
  obtain ⟨f, t, ev, ec, ep, rfl, _⟩ := h
  have hforced := forced_cons f t [ev, ec, ep] hwf fuel depth hw (Nat.le_succ_of_le hd)
  obtain ⟨ts, htl, hts⟩ := cons_tree_ok htree
  obtain ⟨rfl, rfl⟩ := Tree.seq.inj hts
  rw [htl, Except.map] at hforced
  unfold receiveWire
  rw [hforced, hread]
  rfl

end Snmp.Trap
