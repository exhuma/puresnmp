/-
  A single root: whatever the agent answers, a walk with an `Ascending` fetcher — the GETNEXT
  walk, the bulk walk — yields strictly ascending OIDs (`multiwalk_asc`).
-/
import Snmp.Lemmas.WalkLoop
import Snmp.Lemmas.Check
namespace Snmp.Walk
open Snmp

theorem cols_single (root : Oid) (out : List VarBind) : cols [root] out = [(root, out)] :=
  congrArg (fun col => [(root, col)]) (stride_one out)

theorem deduped_single (root : Oid) (out : List VarBind) (yielded : List Oid) :
    ∃ new : List VarBind, deduped [root] [(root, out)] yielded = (new, yielded ++ new.map (·.1)) ∧ new.Sublist out := by
  obtain ⟨new, h1, h2, _⟩ := dedupFold_spec (fun vb => [root].any fun r => inside r vb.1) out ([], yielded)
  refine ⟨new, ?_, h2⟩
  unfold deduped
  simp only [List.map_cons, List.map_nil, List.mergeSort_singleton, List.flatten_cons, List.flatten_nil, List.append_nil]
  rw [h1, List.nil_append]

/-- state of a single-root walk: what was yielded is ascending; no cursor is left, or one cursor inside
    the root (the root itself at the start) with everything yielded at most there -/
def AscInv (root : Oid) (unf : List (Oid × VarBind)) (yielded : List Oid) : Prop :=
  yielded.Pairwise (· < ·) ∧
  (unf = [] ∨ ∃ vb, unf = [(root, vb)] ∧ root <+: vb.1 ∧ ∀ y ∈ yielded, y ≤ vb.1)

theorem asc_step (root c : Oid) (out : List VarBind) (yielded : List Oid)
    (hp : yielded.Pairwise (· < ·)) (hy : ∀ y ∈ yielded, y ≤ c)
    (hs : (out.map (·.1)).Pairwise (· < ·)) (hgt : ∀ v ∈ out, c < v.1) :
    AscInv root (live [(root, out)])
      (deduped [root] [(root, out)] yielded).2 := by
  have hgt' : ∀ y ∈ yielded, ∀ v ∈ out, y < v.1 := fun y hyy v hv => List.lt_of_le_of_lt (hy y hyy) (hgt v hv)
  -- what is yielded now is a sublist of the answer: ascending, and above everything yielded before
  obtain ⟨new, hnew, hsub⟩ := deduped_single root out yielded
  rw [hnew]
  refine ⟨List.pairwise_append.mpr ⟨hp, hs.sublist (hsub.map _), fun a ha b hb => ?_⟩, ?_⟩
  · obtain ⟨v, hv, rfl⟩ := List.mem_map.mp hb
    exact hgt' a ha v (hsub.subset hv)
  cases hl : out.getLast? with
  | none => exact Or.inl (by simp [live, lastOf, hl])
  | some lst =>
    by_cases hin : inside root lst.1 = true
    · refine Or.inr ⟨lst, by simp [live, lastOf, hl, hin], (inside_iff _ _).mp hin, fun y hyy => ?_⟩
      rcases List.mem_append.mp hyy with h | h
      · exact List.le_of_lt (hgt' y h lst (List.mem_of_getLast? hl))
      · -- the last binding of an ascending list is its greatest
        obtain ⟨v, hv, rfl⟩ := List.mem_map.mp h
        obtain ⟨init, rfl⟩ := List.getLast?_eq_some_iff.mp hl
        rcases List.mem_append.mp (hsub.subset hv) with h | h
        · rw [List.map_append, List.pairwise_append] at hs
          exact List.le_of_lt (hs.2.2 v.1 (List.mem_map_of_mem h) lst.1 (by simp))
        · rw [List.mem_singleton.mp h]; exact List.le_refl _
    · exact Or.inl (by simp [live, lastOf, hl, hin])

theorem AscInv.placed {root : Oid} {unf : List (Oid × VarBind)} {yielded : List Oid}
    (h : AscInv root unf yielded) : Placed [root] unf := by
  rcases h.2 with rfl | ⟨vb, rfl, hpre, _⟩
  · exact ⟨List.nil_sublist _, fun _ h => nomatch h⟩
  · exact ⟨List.Sublist.refl _, fun p hp => by rw [List.mem_singleton.mp hp]; exact hpre⟩

theorem single_disjoint (root : Oid) : WalkAbs.Disjoint [root] :=
  List.pairwise_singleton _ root

theorem Ascending.single {fetch : Fetcher} (h : Ascending fetch) {c : Oid} {out : List VarBind}
    (hf : fetch [c] = .ok out) : (out.map (·.1)).Pairwise (· < ·) ∧ ∀ v ∈ out, c < v.1 := by
  have := (h [c] out (List.cons_ne_nil _ _) hf).pairwise
  exact ⟨(List.pairwise_cons.mp this).2, fun v hv => (List.pairwise_cons.mp this).1 v.1 (List.mem_map_of_mem hv)⟩

theorem loop_asc (fetch : Fetcher) (hadv : Ascending fetch) (root : Oid) (lenient : Bool)
    (fuel : Nat) (unf : List (Oid × VarBind)) (yielded : List Oid) (ev : List Event)
    (hi : AscInv root unf yielded) (he : yieldOids ev = yielded) :
    (yieldOids (loop fetch [root] lenient fuel unf yielded ev).events).Pairwise (· < ·) := by
  obtain ⟨_, _, y', ev', _, ⟨hi', he'⟩, hs, _⟩ := loop_ends_disjoint fetch (single_disjoint root) lenient
    (fun _ unf y ev => AscInv root unf y ∧ yieldOids ev = y)
    (fun h => h.1.placed)
    (by
      rintro _ unf y ev out ⟨hi, he⟩ hne hf
      obtain ⟨vb, rfl, hpre, hyle⟩ := hi.2.resolve_left hne
      obtain ⟨hs, hgt⟩ := hadv.single (by simpa using hf)
      simp only [List.map_cons, List.map_nil, cols_single]
      exact ⟨asc_step root vb.1 out y hi.1 hyle hs hgt, yieldOids_next he [root] _ _⟩)
    fuel 0 unf yielded ev ⟨hi, he⟩
  rw [hs.yieldOids, he']; exact hi'.1

/-- **Single root, any ascending fetcher**: the yields are strictly ascending. -/
theorem multiwalk_asc (fetch : Fetcher) (hadv : Ascending fetch) (root : Oid) (lenient : Bool) (fuel : Nat) :
    (yieldOids (multiwalk fetch [root] lenient fuel).events).Pairwise (· < ·) := by
  have hsort : sortOids [root] = [root] := by simp [sortOids]
  cases hf : fetch (sortOids [root]) with
  | error e => rw [multiwalk_error lenient fuel hf]; exact List.Pairwise.nil
  | ok out =>
    rw [multiwalk_eq_loop lenient fuel (by rw [hsort]; exact single_disjoint root) (by simp [hsort]) hf, hsort]
    exact loop_asc fetch hadv root lenient (fuel + 1) _ [] []
      ⟨List.Pairwise.nil, Or.inr ⟨(root, .null), rfl, List.prefix_refl _, by simp⟩⟩ rfl

/-- **Single-root bulk walk, any agent**: strictly ascending yields -/
theorem bulk_single_ascending (x : Exchange) (size : Nat) (root : Oid) (fuel : Nat) :
    (yieldOids (walkBulk x size [root] fuel).events).Pairwise (· < ·) :=
  multiwalk_asc (bulkFetcher x size) (bulkFetcher_ascending x size) root false fuel

end Snmp.Walk

