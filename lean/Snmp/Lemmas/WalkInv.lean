/-
  Why a walk against a conformant agent is complete, for every loop that walks with
  `(root, cursor)` pairs: the invariant `Inv` (every entry below a root is yielded or still ahead
  of that root's cursor), its rule `Inv.next` (a round keeps it however many successors it fetches
  per cursor) and the measure `Fuel` (entries still above the cursors).  OIDs only.  In the
  namespace `Snmp.WalkAbs`, which the abstract loop shares.
-/
import Snmp.Model.Basic
namespace Snmp.WalkAbs
open List Snmp

/-- a subtree is convex in the OID order: what makes "stop at the first binding outside the root"
    lossless for ascending cursors -/
theorem convex (root a b c : Oid) (ha : root <+: a) (hc : root <+: c)
    (hab : a ≤ b) (hbc : b ≤ c) : root <+: b := by
  induction root generalizing a b c with
  | nil => exact List.nil_prefix
  | cons r rs ih =>
    obtain ⟨a', rfl⟩ := ha
    obtain ⟨c', rfl⟩ := hc
    cases b with
    | nil => simp at hab
    | cons h b' =>
      simp only [List.cons_append, List.cons_le_cons_iff] at hab hbc
      have : h = r := by omega
      subst this
      simp only [Nat.lt_irrefl, true_and, false_or] at hab hbc
      have := ih (rs ++ a') b' (rs ++ c') (List.prefix_append _ _) (List.prefix_append _ _) hab hbc
      exact List.cons_prefix_cons.mpr ⟨rfl, this⟩

/-- the roots of a walk as `multiwalk` requests them: strictly ascending and with pairwise disjoint
    subtrees (`Walk.PrefixFree` is the same without the order) -/
def Disjoint (roots : List Oid) : Prop :=
  roots.Pairwise fun a b => a < b ∧ ¬ a <+: b

theorem sub_lt {a b x y : Oid} (hlt : a < b) (hnp : ¬ a <+: b) (hx : a <+: x) (hy : b <+: y) : x < y := by
  induction a generalizing b x y with
  | nil => exact absurd List.nil_prefix hnp
  | cons h t ih =>
    obtain ⟨x', rfl⟩ := hx
    obtain ⟨y', rfl⟩ := hy
    cases b with
    | nil => cases hlt
    | cons h' t' =>
      simp only [List.cons_append, List.cons_lt_cons_iff] at hlt ⊢
      rcases hlt with hlt | ⟨rfl, hlt⟩
      · exact Or.inl hlt
      · have hnp' : ¬ t <+: t' := fun hp => hnp (List.cons_prefix_cons.mpr ⟨rfl, hp⟩)
        exact Or.inr ⟨rfl, ih hlt hnp' (List.prefix_append _ _) (List.prefix_append _ _)⟩

theorem lt_append_cons (root : Oid) (b : Nat) (t : List Nat) : root < root ++ b :: t := by
  induction root with
  | nil => simp
  | cons r root ih => simp [ih]

theorem lt_iff_ne_of_prefix {r o : Oid} (h : r <+: o) : r < o ↔ o ≠ r := by
  obtain ⟨t, rfl⟩ := h
  cases t with
  | nil => simp [List.lt_irrefl]
  | cons b t => simp [lt_append_cons r b t]

theorem cursors_lt {α} {root cursor : α → Oid} {roots : List Oid} (hd : Disjoint roots) {l : List α}
    (hsub : (l.map root).Sublist roots) (hins : ∀ p ∈ l, root p <+: cursor p) :
    (l.map cursor).Pairwise (· < ·) := by
  have h1 := hd.sublist hsub
  rw [List.pairwise_map] at h1 ⊢
  exact h1.imp_of_mem fun {p q} hp hq h => sub_lt h.1 h.2 (hins p hp) (hins q hq)

def nextOf (db : List Oid) (o : Oid) : Option Oid := db.find? (fun x => decide (o < x))

def Sorted (db : List Oid) : Prop := db.Pairwise (· < ·)

def above (db : List Oid) (cur : Oid) : List Oid := db.filter (fun x => decide (cur < x))

theorem nextOf_eq_head (db : List Oid) (cur : Oid) : nextOf db cur = (above db cur).head? :=
  List.head?_filter.symm

theorem above_sorted (db : List Oid) (hs : Sorted db) (c : Oid) : Sorted (above db c) :=
  List.Pairwise.filter _ hs

theorem mem_above {db : List Oid} {c o : Oid} : o ∈ above db c ↔ o ∈ db ∧ c < o := by
  simp [above]

theorem above_above (db : List Oid) {c v : Oid} (h : c < v) :
    above db v = (above db c).filter (fun x => decide (v < x)) := by
  unfold above
  rw [List.filter_filter]
  exact List.filter_congr fun x _ => by
    by_cases hx : v < x <;> simp [hx, List.lt_trans h]

theorem above_of_nextOf {db : List Oid} (hs : Sorted db) {c n : Oid} (h : nextOf db c = some n) :
    above db c = n :: above db n := by
  rw [nextOf_eq_head] at h
  cases hL : above db c with
  | nil => simp [hL] at h
  | cons m rest =>
    simp only [hL, List.head?_cons, Option.some.injEq] at h
    subst h
    have hc : c < m := (mem_above.mp (hL ▸ List.mem_cons_self)).2
    have hp := List.pairwise_cons.mp (hL ▸ above_sorted db hs c)
    rw [above_above db hc, hL, List.filter_cons_of_neg (by simp),
      List.filter_eq_self.mpr fun y hy => by simpa using hp.1 y hy]

theorem above_of_nextOf_none {db : List Oid} {c : Oid} (h : nextOf db c = none) : above db c = [] := by
  rw [nextOf_eq_head] at h
  exact List.head?_eq_none_iff.mp h

theorem above_lt (db : List Oid) {c v : Oid} (h : c < v) (hv : v ∈ db) :
    (above db v).length < (above db c).length := by
  rw [above_above db h]
  exact List.length_filter_lt_length_iff_exists.mpr ⟨v, mem_above.mpr ⟨hv, h⟩, by simp⟩

theorem nextOf_mem {db : List Oid} {c n : Oid} (h : nextOf db c = some n) : n ∈ db ∧ c < n :=
  ⟨List.mem_of_find?_eq_some h, by simpa using List.find?_some h⟩

theorem nextOf_none {db : List Oid} {c : Oid} (h : nextOf db c = none) : ∀ o ∈ db, ¬ c < o :=
  fun o ho hco => List.find?_eq_none.mp h o ho (decide_eq_true hco)

/-- state of a walk, OIDs only: per live root its cursor (`unfinished_oids` of `multiwalk`, the
    binding reduced to its OID), and the `yielded` set -/
structure St where
  cur : List (Oid × Oid)
  yielded : List Oid

def init (roots : List Oid) : St := ⟨roots.map fun r => (r, r), []⟩

/-- **The completeness invariant** of a walk of `roots` over the database `db`.  `sub`, `ins`: the
    live roots are some of the roots, in root order, each with its cursor inside it.  `cov`: every
    database entry strictly below a root has been yielded or lies ahead of that root's cursor — so
    a root that has left `cur` is exhausted, and with no cursor left everything is yielded
    (`Inv.done`). -/
structure Inv (db roots : List Oid) (s : St) : Prop where
  sub : (s.cur.map (·.1)).Sublist roots
  ins : ∀ p ∈ s.cur, p.1 <+: p.2
  cov : ∀ r ∈ roots, ∀ o ∈ db, r <+: o → o ≠ r → o ∈ s.yielded ∨ ∃ c, (r, c) ∈ s.cur ∧ c < o

/-- **One round keeps the invariant, however many successors it fetches per cursor**: if it has
    seen, for every cursor `(r, c)`, the first `ℓ` entries above `c` (none only when there is none),
    has recorded those inside `r` as yielded, and goes on from the last of them if that is still
    inside `r`.  A GETNEXT round fetches one per cursor, a GETBULK round a whole column. -/
theorem Inv.next {db roots : List Oid} (hs : Sorted db) {s s' : St} (hi : Inv db roots s)
    (hsub : (s'.cur.map (·.1)).Sublist roots) (hins : ∀ p ∈ s'.cur, p.1 <+: p.2)
    (hy : ∀ o ∈ s.yielded, o ∈ s'.yielded)
    (hcol : ∀ p ∈ s.cur, ∃ ℓ, (ℓ = 0 → ∀ o ∈ db, ¬ p.2 < o) ∧
      (∀ o ∈ (above db p.2).take ℓ, p.1 <+: o → o ∈ s'.yielded) ∧
      (∀ lst, ((above db p.2).take ℓ).getLast? = some lst → p.1 <+: lst → (p.1, lst) ∈ s'.cur)) :
    Inv db roots s' := by
  refine ⟨hsub, hins, fun r hr o ho hro hne => ?_⟩
  rcases hi.cov r hr o ho hro hne with h | ⟨c, hc, hco⟩
  · exact Or.inl (hy o h)
  · obtain ⟨ℓ, h0, hyl, hlast⟩ := hcol (r, c) hc
    have hmem : o ∈ above db c := mem_above.mpr ⟨ho, hco⟩
    have hsplit := List.take_append_drop ℓ (above db c)
    rcases List.mem_append.mp (hsplit.symm ▸ hmem : o ∈ _ ++ _) with h | h
    · exact Or.inl (hyl o h hro)
    · -- `o` lies beyond what was fetched: the walk continues from the last entry fetched
      cases hl : ((above db c).take ℓ).getLast? with
      | none =>
        rcases List.take_eq_nil_iff.mp (List.getLast?_eq_none_iff.mp hl) with hl | hl
        · exact absurd hco (h0 hl o ho)
        · exact absurd (hl ▸ hmem) List.not_mem_nil
      | some lst =>
        have hlm := List.mem_of_getLast? hl
        have hlt : lst < o :=
          (List.pairwise_append.mp (hsplit.symm ▸ above_sorted db hs c : Sorted (_ ++ _))).2.2 lst hlm o h
        have hcl : c < lst := (mem_above.mp (List.mem_of_mem_take hlm)).2
        exact Or.inr ⟨lst,
          hlast lst hl (convex r c lst o (hi.ins _ hc) hro (List.le_of_lt hcl) (List.le_of_lt hlt)), hlt⟩

theorem init_inv (db roots : List Oid) : Inv db roots (init roots) := by
  refine ⟨by simp [init, Function.comp_def], ?_, ?_⟩
  · intro p hp
    obtain ⟨r, _, rfl⟩ := List.mem_map.mp hp
    exact List.prefix_refl _
  · intro r hr o ho hro hne
    exact Or.inr ⟨r, List.mem_map.mpr ⟨r, hr, rfl⟩, (lt_iff_ne_of_prefix hro).mpr hne⟩

theorem Inv.done {db roots : List Oid} {s : St} (hi : Inv db roots s) (hc : s.cur = []) :
    ∀ r ∈ roots, ∀ o ∈ db, r <+: o → o ≠ r → o ∈ s.yielded := fun r hr o ho hro hne =>
  (hi.cov r hr o ho hro hne).elim id fun ⟨_, hm, _⟩ => by rw [hc] at hm; cases hm

/-- a budget of `k` rounds covers the entries still above every cursor -/
def Fuel (db : List Oid) (k : Nat) (s : St) : Prop := ∀ p ∈ s.cur, (above db p.2).length < k

theorem Fuel.init {db : List Oid} {k : Nat} (s : St) (h : db.length < k) : Fuel db k s := fun _ _ =>
  Nat.lt_of_le_of_lt (List.length_filter_le _ _) h

/-- a round in which every cursor that stays has fewer entries above it than the cursor it comes
    from (`above_lt`) uses up one unit -/
theorem Fuel.next {db : List Oid} {s s' : St} {k : Nat} (hf : Fuel db k s)
    (hadv : ∀ p' ∈ s'.cur, ∃ p ∈ s.cur, (above db p'.2).length < (above db p.2).length) :
    Fuel db (k - 1) s' := fun p' hp' =>
  let ⟨p, hp, hlt⟩ := hadv p' hp'
  Nat.lt_of_lt_of_le hlt (Nat.le_pred_of_lt (hf p hp))

theorem Fuel.zero {db : List Oid} {s : St} (hf : Fuel db 0 s) : s.cur = [] :=
  List.eq_nil_iff_forall_not_mem.mpr fun p hp => Nat.not_lt_zero _ (hf p hp)

end Snmp.WalkAbs
