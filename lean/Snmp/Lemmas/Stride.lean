/-
  Python's extended slice `xs[i::n]` (`Py.stride`), element by element: its `j`-th element is
  `xs[i + j·n]`.  Everything the walk proofs need about the regrouping `varbinds[i::n]` of
  `group_varbinds` follows from that.
-/
import Snmp.Model.Py
namespace Snmp.Walk
open Snmp

theorem stride_go_getElem? {α} (n j fuel : Nat) (l : List α) (h : l.length ≤ fuel) :
    (Py.stride.go n l fuel)[j]? = l[j * (n + 1)]? := by
  induction fuel generalizing j l with
  | zero => obtain rfl := List.eq_nil_of_length_eq_zero (Nat.le_zero.mp h); rfl
  | succ fuel ih =>
    cases l with
    | nil => rfl
    | cons x rest =>
      rw [Py.stride.go]
      cases j with
      | zero => rw [Nat.zero_mul]; rfl
      | succ j =>
        -- the slice goes on `n + 1` places behind `x`
        have hlen : (rest.drop n).length ≤ fuel :=
          List.length_drop ▸ Nat.le_trans (Nat.sub_le _ _) (Nat.le_of_succ_le_succ h)
        have hpos : (j + 1) * (n + 1) = (n + j * (n + 1)) + 1 := by rw [Nat.succ_mul]; omega
        rw [List.getElem?_cons_succ, ih j _ hlen, List.getElem?_drop, hpos, List.getElem?_cons_succ]

theorem stride_getElem? {α} (xs : List α) (i n j : Nat) (hn : 0 < n) :
    (Py.stride xs i n)[j]? = xs[i + j * n]? := by
  obtain ⟨n, rfl⟩ := Nat.exists_eq_add_one.mpr hn
  show (Py.stride.go n (xs.drop i) xs.length)[j]? = _
  rw [stride_go_getElem? n j _ _ (by simp), List.getElem?_drop]

/-- column `i` with `prev[i]` in front, read inside `prev ++ xs`: one entry every `prev.length` places -/
theorem stride_col_getElem? {α β} (f : α → β) (prev : List β) (xs : List α) (i j : Nat) (hi : i < prev.length) :
    (prev[i] :: (Py.stride xs i prev.length).map f)[j]? = (prev ++ xs.map f)[i + j * prev.length]? := by
  cases j with
  | zero => rw [Nat.zero_mul, Nat.add_zero, List.getElem?_append_left hi, List.getElem?_eq_getElem hi]; rfl
  | succ j =>
    -- `i + (j + 1)·n` lies `i + j·n` places behind `prev`
    have hpos : i + (j + 1) * prev.length = prev.length + (i + j * prev.length) := by rw [Nat.succ_mul]; omega
    rw [List.getElem?_cons_succ, List.getElem?_map, stride_getElem? _ _ _ _ (Nat.zero_lt_of_lt hi), hpos,
      List.getElem?_append_right (Nat.le_add_right _ _), Nat.add_sub_cancel_left, List.getElem?_map]

/-- one whole repetition in front: its `i`-th binding heads column `i` -/
theorem stride_row {α} (row rest : List α) (i n : Nat) (hrow : row.length = n + 1) (hi : i ≤ n) :
    Py.stride (row ++ rest) i (n + 1) = row[i]'(by omega) :: Py.stride rest i (n + 1) := by
  apply List.ext_getElem?
  intro j
  have := stride_col_getElem? id row rest i j (by omega)
  simp only [List.map_id, hrow] at this
  rw [stride_getElem? _ _ _ _ (Nat.succ_pos n), this]

theorem stride_subset {α} (xs : List α) (i n : Nat) : ∀ v ∈ Py.stride xs i n, v ∈ xs := by
  intro v hv
  cases n with
  | zero => simp [Py.stride] at hv
  | succ n =>
    obtain ⟨j, hj⟩ := List.mem_iff_getElem?.mp hv
    rw [stride_getElem? _ _ _ _ (Nat.succ_pos n)] at hj
    exact List.mem_of_getElem? hj

theorem stride_one {α} (xs : List α) : Py.stride xs 0 1 = xs :=
  List.ext_getElem? fun j => by rw [stride_getElem? _ _ _ _ Nat.one_pos]; simp

end Snmp.Walk
