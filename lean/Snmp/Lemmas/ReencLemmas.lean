/-
  Re-encoding of decoded structures (`Snmp.Reenc`): `bytes(X.decode(data))` of a well-formed `data`
  is the same run of TLVs (integers re-written minimally from their values) with the length octets
  `x690.encode_length` produces; that is again well-formed, so decoding it yields the same fields.
-/
import Snmp.Model.Reenc
import Snmp.Lemmas.V3GlueLemmas
import Snmp.Lemmas.SpecLemmas
namespace Snmp.Reenc
open Snmp Snmp.Ber Snmp.V3Glue
open Snmp.Spec (Small)

/-- the forms `bytes(USMSecurityParameters)` uses -/
def normForms (p : UsmParams.Params) : ParamForms :=
  ⟨formOf p.engineId.length, formOf (intEncode p.boots).length, formOf (intEncode p.time).length,
   formOf p.user.length, formOf p.auth.length, formOf p.priv.length⟩

theorem encodeUsm_eq (p : UsmParams.Params) :
    encodeUsmParams p.engineId p.boots p.time p.user p.auth p.priv =
      Spec.tlv (formOf (rawBytes (paramItems (normForms p) p (intEncode p.boots) (intEncode p.time))).length) 48
        (rawBytes (paramItems (normForms p) p (intEncode p.boots) (intEncode p.time))) := by
  have hc : rawBytes (paramItems (normForms p) p (intEncode p.boots) (intEncode p.time)) =
      Ber.tlv 4 p.engineId ++ Ber.tlv 2 (intEncode p.boots) ++ Ber.tlv 2 (intEncode p.time) ++ Ber.tlv 4 p.user
        ++ Ber.tlv 4 p.auth ++ Ber.tlv 4 p.priv := by
    simp [paramItems, rawBytes, RawTlv.bytes, tStr, tInt, normForms, tlv_eq_spec]
  rw [← tlv_eq_spec, hc]
  rfl

/-- sizes below 256^126 octets (anything that fits into a datagram) -/
def SmallParams (p : UsmParams.Params) : Prop :=
  Small p.engineId.length ∧ Small (intEncode p.boots).length ∧ Small (intEncode p.time).length ∧ Small p.user.length ∧
  Small p.auth.length ∧ Small p.priv.length ∧
  Small (rawBytes (paramItems (normForms p) p (intEncode p.boots) (intEncode p.time))).length

-- `LenForm.ok` kept folded here and in `normMsgForms_ok`: given `(formOf n).ok n` as expected type the elaborator otherwise
-- unfolds it to see whether it is a function type, and with it `formOf n`, which sets out to decide `n = 127` for a
-- length that is not a numeral.  `simp only` for the same reason: the unifier would get from `(normForms p).fb` to
-- `formOf _` by evaluating both.
attribute [local irreducible] LenForm.ok in
theorem normForms_ok {p : UsmParams.Params} (hs : SmallParams p) :
    (normForms p).ok p (intEncode p.boots) (intEncode p.time) := by
  simp only [ParamForms.ok, normForms]
  exact ⟨formOf_ok _ hs.1, formOf_ok _ hs.2.1, formOf_ok _ hs.2.2.1, formOf_ok _ hs.2.2.2.1, formOf_ok _ hs.2.2.2.2.1,
    formOf_ok _ hs.2.2.2.2.2.1⟩

variable {data : Bytes} {fuel : Nat} {n : Node} {c : Bytes}

theorem objBytes_str (h : NodeOf data n 4 c) : objBytes data n = .ok (Ber.tlv 4 c) := by
  unfold objBytes classTag
  rw [h.entry, h.content, lookup_str]
  cases c <;> simp [Spec.tagOf_str, Ber.tlv, encodeLength]

theorem objBytes_int (h : NodeOf data n 2 c) : objBytes data n = .ok (Ber.tlv 2 c) := by
  unfold objBytes classTag
  rw [h.entry, h.content, lookup_int]
  cases c <;> simp [Spec.tagOf_int, Ber.tlv, encodeLength]

theorem objBytes_same {t : Nat} (h : NodeOf data n t c) (ht : tagOf (lookup t).name = t)
    (hk : (lookup t).kind ≠ "null") (hc : c ≠ []) : objBytes data n = .ok (Ber.tlv t c) := by
  unfold objBytes classTag
  rw [h.entry, h.content]
  simp [hk, hc, ht]

theorem headerInt_int (h : NodeOf data n 2 c) : headerInt data n = .ok (intDecode true c) := by
  unfold headerInt
  rw [h.entry, h.content, lookup_int]
  simp

/-- the three items of a scoped PDU as an agent writes them -/
def scopedItems (fe fn : LenForm) (e nm : Bytes) (pdu : RawTlv) : List RawTlv := [tStr fe e, tStr fn nm, pdu]

theorem scopedItems_ok {fe fn : LenForm} {e nm : Bytes} {pdu : RawTlv} (hfe : fe.ok e.length) (hfn : fn.ok nm.length)
    (hpdu : pdu.ok) : ∀ y ∈ scopedItems fe fn e nm pdu, y.ok := by
  simp only [scopedItems, List.forall_mem_cons]
  exact ⟨tStr_ok hfe, tStr_ok hfn, hpdu, List.forall_mem_nil _⟩

/-- `bytes(ScopedPDU(seq[0], seq[1], seq[2]))`, given the items of the sequence and what `bytes(·)` makes of the first three.
    About any nodes: with the nodes of a written message in their place, the step that reduces the outer `match` is slow
    to check in the kernel (it sets out to evaluate `objBytes` on them). -/
theorem scopedBytes_items {sc n1 n2 n3 : Node} {rest : List Node} {x y z : Bytes} (hk : (sc.entry.kind == "oid") = false)
    (hi : items data sc fuel = .ok (n1 :: n2 :: n3 :: rest)) (hx : objBytes data n1 = .ok x) (hy : objBytes data n2 = .ok y)
    (hz : objBytes data n3 = .ok z) : scopedBytes data sc fuel = .ok (Ber.tlv 48 (x ++ y ++ z)) := by
  unfold scopedBytes
  simp only [hk, Bool.false_eq_true, ↓reduceIte, hi, hx, hy, hz, Spec.tagOf_seq]

/-- … for a scoped PDU lying anywhere in the datagram: the same three TLVs — contextEngineID, contextName and the PDU
    with the content octets as received — under the length octets `encode_length` writes -/
theorem scopedBytes_at {i : Nat} {f fe fn : LenForm} {e nm : Bytes} {pdu : RawTlv}
    (h : At data i (Spec.tlv f 48 (rawBytes (scopedItems fe fn e nm pdu)))) (hfe : fe.ok e.length) (hfn : fn.ok nm.length)
    (hpdu : pdu.ok) (hpt : tagOf (lookup pdu.t).name = pdu.t) (hpk : (lookup pdu.t).kind ≠ "null") (hpc : pdu.c ≠ [])
    (hfuel : 2 ≤ fuel) :
    scopedBytes data (nodeAtLen f 48 (rawBytes (scopedItems fe fn e nm pdu)) i) fuel
      = .ok (Ber.tlv 48 (rawBytes [norm 4 e, norm 4 nm, norm pdu.t pdu.c])) := by
  obtain ⟨Te, Tn, Tp, -⟩ := h.content.run
  rw [scopedBytes_items (by rw [nodeAtLen_entry, lookup_seq]; rfl)
    (items_at (scopedItems_ok hfe hfn hpdu) h fuel (Nat.succ_le_succ hfuel))
    (objBytes_str Te.nodeOf) (objBytes_str Tn.nodeOf) (objBytes_same Tp.nodeOf hpt hpk hpc)]
  simp only [tStr, rawBytes, norm_bytes, List.append_nil, List.append_assoc]

/-- `bytes(Message.decode(data))` of a well-formed message at the head of any datagram: msgVersion
    with the content received, the four header fields re-written from their values, the security
    parameters as received, and msgData as an object (priv flag set, `objBytes_str`) or as a scoped
    PDU (`scopedBytes_at`), each under the length octets `encode_length` writes. -/
theorem reencMsg_at {G : MsgForms} {F : ParamForms} {h : HdrC} {p : UsmParams.Params} {boots time : Bytes} {pl : RawTlv}
    {payload : Bytes} (hat : At data 0 (Spec.tlv G.f0 48 (rawBytes (msgItems G F h p boots time pl))))
    (hok : G.ok F h p boots time pl)
    (hpay : (if fromBE h.flg / 2 % 2 == 1 then objBytes data (plNode G F h p boots time pl)
      else scopedBytes data (plNode G F h p boots time pl) fuel) = .ok payload)
    (hfuel : 3 ≤ fuel) :
    reencMsg data fuel =
      .ok (assemble (Ber.tlv 2 h.ver) (intDecode true h.mid) (intDecode true h.mms) (flagsNorm (fromBE h.flg))
            (intDecode true h.mdl) (spBlock G F p boots time) payload) := by
  obtain ⟨n0, nx, ver, hdr, sp, mid, mms, fl, sm, hdec, he0, hit0, hitH, Nv, Nsp, Nmid, Nmms, Nfl, Nsm⟩ :=
    wire_nodes hat fuel hok hfuel
  unfold reencMsg msgNodes
  simp only [hdec, he0, Bool.not_true, Bool.false_eq_true, ↓reduceIte, hit0, hitH, Nsp.octets, Nfl.octets, headerInt_int Nsm,
    headerInt_int Nmid, headerInt_int Nmms, hpay, objBytes_int Nv]

/-- header contents after re-encoding: integers re-written from their values, flags normalised -/
def normHdr (h : HdrC) : HdrC :=
  ⟨h.ver, intEncode (intDecode true h.mid), intEncode (intDecode true h.mms), [flagsNorm (fromBE h.flg)],
   intEncode (intDecode true h.mdl)⟩

/-- the length forms of the re-encoding (`encode_length` everywhere, except inside
    msgSecurityParameters, whose octets are kept as received).  A constructed level's form depends on the forms
    inside it, so the three `.minimal` in `G1` are placeholders that `G2` and the last line overwrite. -/
def normMsgForms (G : MsgForms) (F : ParamForms) (h : HdrC) (p : UsmParams.Params) (boots time : Bytes) (pl' : RawTlv) : MsgForms :=
  let h' := normHdr h
  let G1 : MsgForms := ⟨.minimal, formOf h'.ver.length, .minimal, formOf h'.mid.length, formOf h'.mms.length,
    formOf h'.flg.length, formOf h'.mdl.length, .minimal, G.fsi⟩
  let G2 : MsgForms := { G1 with fh := formOf (rawBytes (hdrItems G1 h')).length, fsp := formOf (spBlock G1 F p boots time).length }
  { G2 with f0 := formOf (rawBytes (msgItems G2 F h' p boots time pl')).length }

theorem assemble_eq_wire (G : MsgForms) (F : ParamForms) (h : HdrC) (p : UsmParams.Params) (boots time : Bytes) (pl' : RawTlv) :
    assemble (Ber.tlv 2 h.ver) (intDecode true h.mid) (intDecode true h.mms) (flagsNorm (fromBE h.flg))
        (intDecode true h.mdl) (spBlock G F p boots time) pl'.bytes
      = v3wire (normMsgForms G F h p boots time pl') F (normHdr h) p boots time pl' [] := by
  simp [assemble, encodeHeader, v3wire, msgItems, hdrItems, rawBytes, RawTlv.bytes, tInt, tStr, tSeq, normMsgForms, normHdr,
    spBlock, tlv_eq_spec, Spec.tagOf_seq, Spec.tagOf_str]

theorem flagsNorm_small : ∀ f : Nat, f < 8 → flagsNorm f = f := by decide

theorem normHdr_values (h : HdrC) :
    intDecode true (normHdr h).mid = intDecode true h.mid ∧ intDecode true (normHdr h).mms = intDecode true h.mms ∧
    intDecode true (normHdr h).mdl = intDecode true h.mdl ∧ fromBE (normHdr h).flg = flagsNorm (fromBE h.flg) := by
  refine ⟨intDecode_intEncode _, intDecode_intEncode _, intDecode_intEncode _, ?_⟩
  simp [normHdr, fromBE]

/-- every level of the re-encoding is shorter than 256^126 octets (anything that fits a datagram) -/
def SmallMsg (G : MsgForms) (F : ParamForms) (h : HdrC) (p : UsmParams.Params) (boots time : Bytes) (pl' : RawTlv) : Prop :=
  Small (rawBytes (msgItems (normMsgForms G F h p boots time pl') F (normHdr h) p boots time pl')).length ∧
  Small (normHdr h).ver.length ∧ Small (rawBytes (hdrItems (normMsgForms G F h p boots time pl') (normHdr h))).length ∧
  Small (normHdr h).mid.length ∧ Small (normHdr h).mms.length ∧ Small (normHdr h).flg.length ∧ Small (normHdr h).mdl.length ∧
  Small (spBlock (normMsgForms G F h p boots time pl') F p boots time).length

attribute [local irreducible] LenForm.ok in
theorem normMsgForms_ok (G : MsgForms) (F : ParamForms) (h : HdrC) (p : UsmParams.Params) (boots time : Bytes) (pl' : RawTlv)
    (hs : SmallMsg G F h p boots time pl') (hsi : G.fsi.ok (rawBytes (paramItems F p boots time)).length) (hpl : pl'.ok) :
    (normMsgForms G F h p boots time pl').ok F (normHdr h) p boots time pl' := by
  obtain ⟨s0, s1, s2, s3, s4, s5, s6, s7⟩ := hs
  -- every form is `formOf` of the length it stands in front of; `simp only` to see that, since the unifier would
  -- go through the nested structure updates of `normMsgForms` the slow way
  simp only [normMsgForms, msgItems, hdrItems, spBlock] at s0 s2 s7
  simp only [MsgForms.ok, normMsgForms, msgItems, hdrItems, spBlock]
  exact ⟨formOf_ok _ s0, formOf_ok _ s1, formOf_ok _ s2, formOf_ok _ s3, formOf_ok _ s4, formOf_ok _ s5, formOf_ok _ s6,
    formOf_ok _ s7, hsi, hpl⟩

end Snmp.Reenc
