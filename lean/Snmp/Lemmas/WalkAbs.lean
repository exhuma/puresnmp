/-
  The abstract GETNEXT walk over OIDs only: `walk1`, one root, and the multi-root loop `run` over
  `(root, cursor)` pairs against a conformant agent.  `step` is one pass of `multiwalk`'s
  `while unfinished_oids:` body.  Its completeness (`run_done`) is an instance of `Inv.next`; the
  Python-faithful loop is proved complete directly (`WalkComplete`) and to step as this one
  (`WalkRefine`).
-/
import Snmp.Lemmas.WalkInv
namespace Snmp.WalkAbs
open Snmp

/-- single-root GETNEXT walk, fuel-bounded -/
def walk1 (db : List Oid) (root : Oid) : Nat → Oid → List Oid
  | 0, _ => []
  | fuel+1, cur =>
    match nextOf db cur with
    | none => []
    | some n => if inside root n then n :: walk1 db root fuel n else []

theorem walk1_eq (db : List Oid) (root : Oid) (hs : Sorted db) :
    ∀ (fuel : Nat) (cur : Oid), (above db cur).length < fuel →
      walk1 db root fuel cur = (above db cur).takeWhile (inside root) := by
  intro fuel
  induction fuel with
  | zero => exact fun _ h => absurd h (Nat.not_lt_zero _)
  | succ fuel ih =>
    intro cur hf
    rw [walk1]
    cases hn : nextOf db cur with
    | none => rw [above_of_nextOf_none hn]; rfl
    | some n =>
      have ha := above_of_nextOf hs hn
      rw [ha] at hf ⊢
      simp only [List.takeWhile_cons]
      split
      · rw [ih n (Nat.lt_of_succ_lt_succ hf)]
      · rfl

/-- responses of a conformant agent to a GETNEXT on the requested OIDs, cut at the first endOfMibView -/
def fetchNext (db : List Oid) : List Oid → List Oid
  | [] => []
  | q :: qs => match nextOf db q with
    | none => []
    | some n => n :: fetchNext db qs

/-- `deduped_varbinds` on one binding: yielded if inside a root and not yielded before -/
def addY (roots : List Oid) (Y : List Oid) (n : Oid) : List Oid :=
  if roots.any (fun r => inside r n) && !Y.contains n then Y ++ [n] else Y

/-- one pass of the `while unfinished_oids:` body -/
def step (db roots : List Oid) (s : St) : St :=
  let resp := fetchNext db (s.cur.map (·.2))
  let paired := s.cur.zip resp
  { cur := paired.filterMap fun p => if inside p.1.1 p.2 then some (p.1.1, p.2) else none
    yielded := paired.foldl (fun Y p => addY roots Y p.2) s.yielded }

/-- the loop, with a budget of rounds -/
def run (db roots : List Oid) : Nat → St → St
  | 0, s => s
  | k+1, s => if s.cur = [] then s else run db roots k (step db roots s)

theorem fetchNext_cons {db : List Oid} {q m : Oid} (qs : List Oid) (h : nextOf db q = some m) :
    fetchNext db (q :: qs) = m :: fetchNext db qs := by
  rw [fetchNext, h]

/-- a cursor with a successor, in a list of ascending cursors, is paired with it: the cursors before
    it lie below it, so have a successor too -/
theorem zip_fetch {db : List Oid} {cur : List (Oid × Oid)} (hcs : cur.Pairwise fun a b => a.2 < b.2)
    {p : Oid × Oid} {n : Oid} (hp : p ∈ cur) (hn : nextOf db p.2 = some n) :
    (p, n) ∈ cur.zip (fetchNext db (cur.map (·.2))) := by
  induction cur with
  | nil => cases hp
  | cons q cur ih =>
    have hq := List.pairwise_cons.mp hcs
    rcases List.mem_cons.mp hp with rfl | hp
    · rw [List.map_cons, fetchNext_cons _ hn]; exact List.mem_cons_self
    · have : (nextOf db q.2).isSome := List.find?_isSome.mpr
        ⟨n, (nextOf_mem hn).1, decide_eq_true (List.lt_trans (hq.1 p hp) (nextOf_mem hn).2)⟩
      obtain ⟨m, hm⟩ := Option.isSome_iff_exists.mp this
      rw [List.map_cons, fetchNext_cons _ hm]
      exact List.mem_cons_of_mem _ (ih hq.2 hp)

theorem zip_fetch_sound (db : List Oid) (cur : List (Oid × Oid)) (p : Oid × Oid) (n : Oid)
    (h : (p, n) ∈ cur.zip (fetchNext db (cur.map (·.2)))) : p ∈ cur ∧ nextOf db p.2 = some n := by
  induction cur with
  | nil => cases h
  | cons q cur ih =>
    cases hq : nextOf db q.2 with
    | none => rw [List.map_cons, fetchNext, hq] at h; cases h
    | some m =>
      rw [List.map_cons, fetchNext_cons _ hq, List.zip_cons_cons, List.mem_cons] at h
      rcases h with h | h
      · cases h; exact ⟨List.mem_cons_self, hq⟩
      · exact ⟨List.mem_cons_of_mem _ (ih h).1, (ih h).2⟩

theorem mem_foldl_addY (roots : List Oid) (ps : List ((Oid × Oid) × Oid)) (Y : List Oid) (o : Oid) :
    o ∈ ps.foldl (fun Y p => addY roots Y p.2) Y ↔
      o ∈ Y ∨ (roots.any (fun r => inside r o) = true ∧ ∃ p ∈ ps, p.2 = o) := by
  induction ps generalizing Y with
  | nil => simp
  | cons p ps ih =>
    have hp : o ∈ addY roots Y p.2 ↔ o ∈ Y ∨ (roots.any (fun r => inside r o) = true ∧ p.2 = o) := by
      unfold addY
      split
      · rename_i h
        rw [List.mem_append, List.mem_singleton]
        exact or_congr_right ⟨fun e => ⟨e ▸ (Bool.and_eq_true_iff.mp h).1, e.symm⟩, fun e => e.2.symm⟩
      · rename_i h
        refine ⟨Or.inl, fun h' => h'.elim id fun ⟨ha, e⟩ => Decidable.byContradiction fun hn => h ?_⟩
        rw [e, ha, Bool.true_and, Bool.not_eq_true', List.contains_eq_mem, decide_eq_false hn]
    rw [List.foldl_cons, ih, hp, or_assoc]
    simp only [List.mem_cons, exists_eq_or_imp, and_or_left]

theorem mem_step_cur {db roots : List Oid} {s : St} {p : Oid × Oid} :
    p ∈ (step db roots s).cur ↔
      ∃ q ∈ s.cur.zip (fetchNext db (s.cur.map (·.2))), inside q.1.1 q.2 = true ∧ (q.1.1, q.2) = p := by
  simp only [step, List.mem_filterMap, Option.ite_none_right_eq_some, Option.some.injEq]

theorem step_cur_sublist (db roots : List Oid) (s : St) :
    ((step db roots s).cur.map (·.1)).Sublist (s.cur.map (·.1)) := by
  unfold step
  generalize fetchNext db (s.cur.map (·.2)) = resp
  generalize s.cur = cur
  induction cur generalizing resp with
  | nil => simp
  | cons q cur ih =>
    cases resp with
    | nil => simp
    | cons n resp =>
      simp only [List.zip_cons_cons, List.filterMap_cons, List.map_cons]
      split
      · exact (ih resp).cons _
      · rename_i a h; split at h
        · cases h; exact (ih resp).cons_cons _
        · simp at h

theorem step_inv {db roots : List Oid} (hs : Sorted db) (hd : Disjoint roots) {s : St}
    (hi : Inv db roots s) : Inv db roots (step db roots s) := by
  have hcs := List.pairwise_map.mp (cursors_lt (cursor := (·.2)) hd hi.sub hi.ins)
  refine hi.next hs ((step_cur_sublist db roots s).trans hi.sub) ?_
    (fun o ho => (mem_foldl_addY roots _ _ o).mpr (Or.inl ho)) ?_
  · intro p hp
    obtain ⟨q, _, h, rfl⟩ := mem_step_cur.mp hp
    exact (inside_iff _ _).mp h
  · intro p hp
    cases hn : nextOf db p.2 with
    | none => exact ⟨0, fun _ => nextOf_none hn, (fun _ h => nomatch h), fun _ h => nomatch h⟩
    | some n =>
      have hmem := zip_fetch hcs hp hn
      refine ⟨1, fun h => absurd h Nat.one_ne_zero, ?_, ?_⟩ <;>
        rw [above_of_nextOf hs hn, List.take_succ_cons, List.take_zero]
      · intro o ho hro
        obtain rfl := List.mem_singleton.mp ho
        have hroot : p.1 ∈ roots := hi.sub.subset (List.mem_map_of_mem (f := (·.1)) hp)
        exact (mem_foldl_addY roots _ _ o).mpr (Or.inr ⟨List.any_eq_true.mpr
          ⟨p.1, hroot, (inside_iff p.1 o).mpr hro⟩, (p, o), hmem, rfl⟩)
      · intro lst hl hrl
        cases hl
        exact mem_step_cur.mpr ⟨(p, n), hmem, (inside_iff p.1 n).mpr hrl, rfl⟩

theorem step_fuel {db roots : List Oid} {s : St} {k : Nat}
    (hf : Fuel db (k+1) s) : Fuel db k (step db roots s) := hf.next fun p hp => by
  obtain ⟨q, hq, _, rfl⟩ := mem_step_cur.mp hp
  obtain ⟨hmem, hn⟩ := zip_fetch_sound db s.cur q.1 q.2 hq
  exact ⟨q.1, hmem, above_lt db (nextOf_mem hn).2 (nextOf_mem hn).1⟩

theorem run_done {db roots : List Oid} (hs : Sorted db) (hd : Disjoint roots) (k : Nat) (s : St)
    (hi : Inv db roots s) (hf : Fuel db k s) : (run db roots k s).cur = [] ∧ Inv db roots (run db roots k s) := by
  induction k generalizing s with
  | zero => exact ⟨hf.zero, hi⟩
  | succ k ih =>
    rw [run]
    split
    · exact ⟨by assumption, hi⟩
    · exact ih _ (step_inv hs hd hi) (step_fuel hf)

end Snmp.WalkAbs
