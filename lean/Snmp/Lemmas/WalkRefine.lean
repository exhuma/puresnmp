/-
  The Python-faithful walk loop with the GETNEXT fetcher against a conformant agent steps exactly
  as the abstract loop of `Snmp.WalkAbs` (`loop_refines`, `multiwalk_refines`): a GETNEXT response
  holds at most one binding per requested OID, so its columns are the padded zip `padZip`.
-/
import Snmp.Lemmas.WalkAbs
import Snmp.Lemmas.WalkSound
import Snmp.Lemmas.WalkComplete
namespace Snmp.Walk
open Snmp

theorem stride_short {α} (xs : List α) (i n : Nat) (hn : xs.length ≤ n) (hi : i < n) :
    Py.stride xs i n = (xs[i]?).toList := by
  apply List.ext_getElem?
  intro j
  rw [stride_getElem? _ _ _ _ (Nat.zero_lt_of_lt hi)]
  cases j with
  | zero => rw [Nat.zero_mul, Nat.add_zero]; cases xs[i]? <;> rfl
  | succ j =>
    have h1 : xs[i + (j + 1) * n]? = none := by
      rw [List.getElem?_eq_none_iff, Nat.succ_mul]; omega
    rw [h1]; cases xs[i]? <;> rfl

/-- one group per key: the key's binding if the (cut) response reaches that far -/
def padZip : List Oid → List VarBind → Groups
  | [], _ => []
  | k :: ks, [] => (k, []) :: padZip ks []
  | k :: ks, v :: vs => (k, [v]) :: padZip ks vs

theorem padZip_keys (ks : List Oid) (vbs : List VarBind) : (padZip ks vbs).map (·.1) = ks := by
  induction ks generalizing vbs with
  | nil => rfl
  | cons k ks ih => cases vbs <;> rw [padZip, List.map_cons, ih]

theorem padZip_eq_map (ks : List Oid) (vbs : List VarBind) :
    padZip ks vbs = (List.range ks.length).map (fun i => (ks.getD i [], (vbs[i]?).toList)) := by
  induction ks generalizing vbs with
  | nil => rfl
  | cons k ks ih =>
    rw [List.length_cons, List.range_succ_eq_map, List.map_cons, List.map_map]
    cases vbs with
    | nil => rw [padZip, ih []]; rfl
    | cons v vs => rw [padZip, ih vs]; rfl

theorem cols_eq_padZip (ks : List Oid) (vbs : List VarBind) (h : vbs.length ≤ ks.length) :
    cols ks vbs = padZip ks vbs := by
  rw [padZip_eq_map]
  exact List.map_congr_left fun i hi => by rw [stride_short vbs i ks.length h (by simpa using hi)]

/-- `group_varbinds(varbinds, next_fetches, user_roots)` inside the walk loop -/
theorem group_loop (vbs : List VarBind) (cs ks roots : List Oid) (rootOf : Oid → Oid)
    (hn : vbs.length ≤ cs.length) (hne : cs ≠ []) (hroots : roots ≠ []) (hcs : cs.Nodup)
    (hks : cs.map rootOf = ks) (hknd : ks.Nodup)
    (hf : ∀ c ∈ cs, roots.filter (fun base => inside base c) = [rootOf c]) :
    groupVarbinds vbs cs roots = .ok (padZip ks vbs) := by
  rw [← cols_eq_padZip ks vbs (by rw [← hks, List.length_map]; exact hn)]
  exact groupVarbinds_cols vbs cs ks roots rootOf hne hroots hcs hks hknd hf

theorem last_padZip (ks : List Oid) (vbs : List VarBind) : (padZip ks vbs).filterMap lastOf = ks.zip vbs := by
  induction ks generalizing vbs with
  | nil => rfl
  | cons k ks ih =>
    cases vbs with
    | nil => rw [padZip, List.zip_nil_right]; exact (ih []).trans List.zip_nil_right
    | cons v vs => rw [padZip, List.zip_cons_cons, ← ih vs]; rfl

/-- `get_unfinished_walk_oids` on such groups, the roots being strictly ascending: the pairs
    `(root, binding)` whose binding is still inside the root, in root order -/
theorem unfinished_padZip (ks : List Oid) (vbs : List VarBind) (hs : ks.Pairwise (· < ·)) :
    unfinished (padZip ks vbs) = (ks.zip vbs).filter (fun kl => inside kl.1 kl.2.1) := by
  rw [unfinished_sorted _ (by rw [padZip_keys]; exact hs), live, last_padZip]

theorem padZip_mem (ks : List Oid) (vbs : List VarBind) (h : vbs.length ≤ ks.length) :
    ∀ vb ∈ vbs, ∃ grp ∈ padZip ks vbs, vb ∈ grp.2 := by
  intro vb hvb
  obtain ⟨i, hi, rfl⟩ := List.getElem_of_mem hvb
  rw [padZip_eq_map]
  exact ⟨_, List.mem_map.mpr ⟨i, List.mem_range.mpr (by omega), rfl⟩, by simp [hi]⟩

theorem padZip_mem_rev (ks : List Oid) (vbs : List VarBind) :
    ∀ grp ∈ padZip ks vbs, ∀ vb ∈ grp.2, vb ∈ vbs := by
  intro grp hg vb hvb
  rw [padZip_eq_map] at hg
  obtain ⟨i, _, rfl⟩ := List.mem_map.mp hg
  exact List.mem_of_getElem? (Option.mem_toList.mp hvb)

theorem fetchVb_length (db : List VarBind) (qs : List Oid) : (fetchVb db qs).length ≤ qs.length := by
  induction qs with
  | nil => exact Nat.le_refl 0
  | cons q qs ih =>
    rw [fetchVb]
    split
    · exact Nat.zero_le _
    · exact Nat.succ_le_succ ih

theorem fetchVb_mem (db : List VarBind) (qs : List Oid) : ∀ vb ∈ fetchVb db qs, vb ∈ db := by
  induction qs with
  | nil => simp [fetchVb]
  | cons q qs ih =>
    unfold fetchVb
    split
    · simp
    · rename_i e he
      intro vb hvb
      rcases List.mem_cons.mp hvb with rfl | h
      · exact (nextOf_mem he).1
      · exact ih vb h

theorem fetchVb_oids (db : List VarBind) (qs : List Oid) :
    (fetchVb db qs).map (·.1) = WalkAbs.fetchNext (db.map (·.1)) qs := by
  induction qs with
  | nil => rfl
  | cons q qs ih =>
    unfold fetchVb WalkAbs.fetchNext
    rw [nextOf_map]
    cases Agent.nextOf db q with
    | none => rfl
    | some e => exact congrArg (e.1 :: ·) ih

theorem absCur_step (unf : List (Oid × VarBind)) (vbs : List VarBind) :
    absCur (((unf.map (·.1)).zip vbs).filter (fun kl => inside kl.1 kl.2.1)) =
      ((absCur unf).zip (vbs.map (·.1))).filterMap (fun p => if inside p.1.1 p.2 then some (p.1.1, p.2) else none) := by
  induction unf generalizing vbs with
  | nil => rfl
  | cons u unf ih =>
    cases vbs with
    | nil => rfl
    | cons v vs =>
      rw [List.map_cons, List.zip_cons_cons, List.filter_cons]
      show _ = List.filterMap _ (((u.1, u.2.1), v.1) :: (absCur unf).zip (vs.map (·.1)))
      rw [List.filterMap_cons]
      by_cases hin : inside u.1 v.1 = true
      · rw [if_pos hin, if_pos hin, ← ih vs]; rfl
      · rw [if_neg hin, if_neg hin, ih vs]

section Refine
variable (dbv : List VarBind) (pol : BulkPolicy) (roots : List Oid)

/-- One iteration of the `while unfinished_oids:` loop against a conformant agent, spelled out. -/
theorem loop_step (lenient : Bool) (fuel : Nat) (unf : List (Oid × VarBind)) (yielded : List Oid)
    (ev : List Event) (s : WalkAbs.St)
    (hv : ∀ vb ∈ dbv, vb.2.isEom = false) (hd : WalkAbs.Disjoint roots)
    (hi : WalkAbs.Inv (dbv.map (·.1)) roots s) (habs : absCur unf = s.cur) (hne : unf ≠ []) :
    loop (cfetch dbv pol) roots lenient (fuel + 1) unf yielded ev =
      loop (cfetch dbv pol) roots lenient fuel
        (((unf.map (·.1)).zip (fetchVb dbv (unf.map (·.2.1)))).filter (fun kl => inside kl.1 kl.2.1))
        (deduped roots (padZip (unf.map (·.1)) (fetchVb dbv (unf.map (·.2.1)))) yielded).2
        (ev ++ [Event.req (unf.map (·.2.1))] ++
          (deduped roots (padZip (unf.map (·.1)) (fetchVb dbv (unf.map (·.2.1)))) yielded).1.map Event.yield) := by
  have hi' : WalkAbs.Inv (dbv.map (·.1)) roots ⟨absCur unf, s.yielded⟩ := by rw [habs]; exact hi
  have hg := group_cursors hd hi'.placed hne (fetchVb dbv (unf.map (·.2.1)))
  rw [cols_eq_padZip _ _ (by simpa using fetchVb_length dbv (unf.map (·.2.1)))] at hg
  rw [loop_ok hne lenient fuel yielded ev (multigetnext_eq_fetchVb dbv pol hv _) hg,
    unfinished_padZip _ _ (hi'.placed.keys_lt hd)]

theorem run_nil (db roots : List Oid) (k : Nat) (s : WalkAbs.St) (h : s.cur = []) :
    WalkAbs.run db roots k s = s := by
  cases k <;> simp [WalkAbs.run, h]

theorem step_nil (db roots : List Oid) (s : WalkAbs.St) (h : s.cur = []) : WalkAbs.step db roots s = s := by
  cases s with
  | mk cur y => simp only at h; subst h; simp [WalkAbs.step, WalkAbs.fetchNext]

theorem run_succ (db roots : List Oid) (k : Nat) (s : WalkAbs.St) :
    WalkAbs.run db roots (k + 1) s = WalkAbs.run db roots k (WalkAbs.step db roots s) := by
  by_cases h : s.cur = []
  · rw [step_nil db roots s h, run_nil _ _ _ _ h, run_nil _ _ _ _ h]
  · simp [WalkAbs.run, h]

theorem step_corr (unf : List (Oid × VarBind)) (yielded : List Oid) (s : WalkAbs.St)
    (habs : absCur unf = s.cur) (hy : ∀ o ∈ s.yielded, o ∈ yielded) :
    absCur (((unf.map (·.1)).zip (fetchVb dbv (unf.map (·.2.1)))).filter (fun kl => inside kl.1 kl.2.1))
      = (WalkAbs.step (dbv.map (·.1)) roots s).cur ∧
    ∀ o ∈ (WalkAbs.step (dbv.map (·.1)) roots s).yielded,
      o ∈ (deduped roots (padZip (unf.map (·.1)) (fetchVb dbv (unf.map (·.2.1)))) yielded).2 := by
  have hcs : s.cur.map (·.2) = unf.map (·.2.1) := by rw [← habs, absCur, List.map_map]; rfl
  refine ⟨?_, ?_⟩
  · rw [absCur_step]
    unfold WalkAbs.step
    simp only [hcs]
    rw [← habs, fetchVb_oids]
  · intro o ho
    unfold WalkAbs.step at ho
    simp only [hcs] at ho
    rcases (WalkAbs.mem_foldl_addY roots _ _ o).mp ho with h | ⟨ha, p, hp, rfl⟩
    · exact ((deduped_mem roots _ yielded o).1).mpr (Or.inl (hy o h))
    · refine ((deduped_mem roots _ yielded p.2).1).mpr (Or.inr ⟨ha, ?_⟩)
      have hp2 : p.2 ∈ WalkAbs.fetchNext (dbv.map (·.1)) (unf.map (·.2.1)) := (List.of_mem_zip hp).2
      rw [← fetchVb_oids] at hp2
      obtain ⟨vb, hvb, hvo⟩ := List.mem_map.mp hp2
      obtain ⟨grp, hg, hm⟩ := padZip_mem (unf.map (·.1)) (fetchVb dbv (unf.map (·.2.1)))
        (by simpa using fetchVb_length dbv (unf.map (·.2.1))) vb hvb
      exact ⟨grp, hg, vb, hm, hvo⟩

/-- **Refinement.**  Run against a conformant agent, the Python-faithful loop passes through the
    states of the abstract `(root, cursor)` loop: it ends normally when the abstract loop has no
    cursor left, has yielded (at least) what the abstract loop has, and yields database entries
    only. -/
theorem loop_refines (lenient : Bool) (hs : WalkAbs.Sorted (dbv.map (·.1)))
    (hv : ∀ vb ∈ dbv, vb.2.isEom = false) (hd : WalkAbs.Disjoint roots) :
    ∀ (fuel : Nat) (unf : List (Oid × VarBind)) (yielded : List Oid) (ev : List Event) (s : WalkAbs.St),
      WalkAbs.Inv (dbv.map (·.1)) roots s → absCur unf = s.cur → (∀ o ∈ s.yielded, o ∈ yielded) →
      Good roots yielded → yieldOids ev = yielded → (∀ vb ∈ yieldsOf ev, vb ∈ dbv) →
      ((WalkAbs.run (dbv.map (·.1)) roots fuel s).cur = [] →
          (loop (cfetch dbv pol) roots lenient fuel unf yielded ev).outcome = .done) ∧
      (∀ o ∈ (WalkAbs.run (dbv.map (·.1)) roots fuel s).yielded,
          o ∈ yieldOids (loop (cfetch dbv pol) roots lenient fuel unf yielded ev).events) ∧
      (∀ vb ∈ yieldsOf (loop (cfetch dbv pol) roots lenient fuel unf yielded ev).events, vb ∈ dbv) := by
  -- where either loop stops, the faithful one has yielded what the abstract one has
  have stop : ∀ {yielded ev} {s : WalkAbs.St}, (∀ o ∈ s.yielded, o ∈ yielded) → yieldOids ev = yielded →
      ∀ o ∈ s.yielded, o ∈ yieldOids ev := fun hy hev o ho => hev ▸ hy o ho
  intro fuel
  induction fuel with
  | zero =>
    intro unf yielded ev s _ habs hy _ hev hdb
    by_cases hne : unf = []
    · subst hne
      exact ⟨fun _ => rfl, stop hy hev, hdb⟩
    · rw [loop_zero hne]
      exact ⟨fun hc => absurd (List.map_eq_nil_iff.mp (habs.trans hc)) hne, stop hy hev, hdb⟩
  | succ fuel ih =>
    intro unf yielded ev s hi habs hy hg hev hdb
    by_cases hne : unf = []
    · subst hne
      rw [run_nil _ _ _ _ (habs ▸ rfl), loop_nil]
      exact ⟨fun _ => rfl, stop hy hev, hdb⟩
    · rw [run_succ, loop_step dbv pol roots lenient fuel unf yielded ev s hv hd hi habs hne]
      have hc := step_corr dbv roots unf yielded s habs hy
      apply ih _ _ _ _ (WalkAbs.step_inv hs hd hi) hc.1 hc.2 (deduped_good roots _ yielded hg)
      · exact yieldOids_next hev roots _ _
      · intro vb hvb
        rw [yieldsOf_step] at hvb
        rcases List.mem_append.mp hvb with h | h
        · exact hdb vb h
        · obtain ⟨grp, hgm, hm⟩ := (deduped_mem roots _ yielded vb.1).2 vb h
          exact fetchVb_mem dbv _ vb (padZip_mem_rev _ _ grp hgm vb hm)

/-- `loop_refines` for the whole `multiwalk`, first request included -/
theorem multiwalk_refines (roots0 : List Oid) (lenient : Bool) (fuel : Nat)
    (hs : WalkAbs.Sorted (dbv.map (·.1))) (hv : ∀ vb ∈ dbv, vb.2.isEom = false)
    (hd : WalkAbs.Disjoint (sortOids roots0)) :
    ((WalkAbs.run (dbv.map (·.1)) (sortOids roots0) (fuel + 1) (WalkAbs.init (sortOids roots0))).cur = [] →
        (multiwalk (cfetch dbv pol) roots0 lenient fuel).outcome = .done) ∧
    (∀ o ∈ (WalkAbs.run (dbv.map (·.1)) (sortOids roots0) (fuel + 1) (WalkAbs.init (sortOids roots0))).yielded,
        o ∈ yieldOids (multiwalk (cfetch dbv pol) roots0 lenient fuel).events) ∧
    (∀ vb ∈ yieldsOf (multiwalk (cfetch dbv pol) roots0 lenient fuel).events, vb ∈ dbv) := by
  by_cases hne : sortOids roots0 = []
  · -- no root: the abstract loop does not move
    rw [multiwalk_nil lenient fuel hne (multigetnext_eq_fetchVb dbv pol hv _), hne,
      run_nil _ _ _ _ (by simp [WalkAbs.init])]
    simp [WalkAbs.init, yieldsOf]
  · rw [multiwalk_eq_loop lenient fuel hd hne (multigetnext_eq_fetchVb dbv pol hv _)]
    exact loop_refines dbv pol _ lenient hs hv hd (fuel + 1) _ [] [] _ (WalkAbs.init_inv _ _) (absCur_start _)
      (fun _ h => nomatch h) ⟨List.nodup_nil, fun _ h => nomatch h⟩ rfl (fun _ h => nomatch h)

end Refine

end Snmp.Walk
