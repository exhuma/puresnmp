/-
  `Sequence.decode_raw` (mirror: `seqItems`) over a run of TLVs in any admissible definite length
  forms: the lazy item nodes it returns, spelled out.  Everything that reads a constructed value
  goes through `seqItems_at`, mostly as `seqItems_node` (the run is the content of a node);
  `RunAt` places the single items of the run.
-/
import Snmp.Lemmas.BerDecode
namespace Snmp.Ber

/-- the nodes of a run of TLVs starting at offset `n` -/
def rawNodes : Nat → List RawTlv → List Node
  | _, [] => []
  | n, x :: xs => nodeAtLen x.f x.t x.c n :: rawNodes (n + x.bytes.length) xs

variable {data : Bytes} {i : Nat}

theorem decodeAt_run {x : RawTlv} {xs : List RawTlv} (h : At data i (rawBytes (x :: xs))) (hx : x.ok) :
    decodeAt data i = .ok (nodeAtLen x.f x.t x.c i, i + x.bytes.length) :=
  decodeAt_at h.left hx

theorem seqItems_loop_at (xs : List RawTlv) (h : ∀ x ∈ xs, x.ok) (i f : Nat) (acc : List Node)
    (hat : At data i (rawBytes xs)) (hf : xs.length ≤ f) :
    seqItems.loop data ((i + (rawBytes xs).length : Nat) : Int) f i acc = .ok (acc.reverse ++ rawNodes i xs) := by
  induction xs generalizing i f acc with
  | nil =>
    have hnot : ¬ ((i : Int) < ((i + (rawBytes []).length : Nat) : Int)) := Int.lt_irrefl _
    cases f <;> (rw [seqItems.loop]; simp only [hnot, ↓reduceIte, rawNodes, List.append_nil])
  | cons x xs ih =>
    obtain ⟨hx, hxs⟩ := List.forall_mem_cons.mp h
    obtain ⟨f', rfl⟩ := Nat.exists_eq_add_of_le' (Nat.le_trans (Nat.le_add_left 1 xs.length) hf)
    have hlt : (i : Int) < ((i + (rawBytes (x :: xs)).length : Nat) : Int) :=
      Int.ofNat_lt.mpr (Nat.lt_add_of_pos_right (by rw [rawBytes_cons_length]; exact Nat.add_pos_left x.bytes_pos _))
    rw [seqItems.loop]
    simp only [hlt, ↓reduceIte, decodeAt_run hat hx, bind, Except.bind]
    rw [rawBytes_cons_length, ← Nat.add_assoc, ih hxs _ f' _ hat.right (Nat.le_of_succ_le_succ hf)]
    simp [rawNodes]

/-- **`Sequence.decode_raw` on a slice that holds a run of TLVs**: the item nodes.  `seqItems` decodes the
    first item itself and hands `fuel` to the loop, so `n` items need `n ≤ fuel + 1`
    (six USM parameters: `5 ≤ fuel`). -/
theorem seqItems_at (xs : List RawTlv) (h : ∀ x ∈ xs, x.ok) (hat : At data i (rawBytes xs)) (fuel : Nat)
    (hf : xs.length ≤ fuel + 1) :
    seqItems data ⟨i, ((i + (rawBytes xs).length : Nat) : Int)⟩ fuel = .ok (rawNodes i xs) := by
  unfold seqItems
  cases xs with
  | nil => rw [hat.slice]; rfl
  | cons x xs =>
    obtain ⟨hx, hxs⟩ := List.forall_mem_cons.mp h
    have hpos := x.bytes_pos
    have hne : (pySlice data i ((i + (rawBytes (x :: xs)).length : Nat) : Int)).isEmpty = false := by
      rw [hat.slice]; rfl
    have hle : ¬ i > data.length := by have := hat.le; omega
    have hstop : ¬ (((i + (rawBytes (x :: xs)).length : Nat) : Int) = 0) := by
      simp only [rawBytes, List.length_append]; omega
    simp only [hne, hle, decide_false, Bool.or_false, Bool.false_eq_true, ↓reduceIte,
      decodeAt_run hat hx, bind, Except.bind, hstop]
    rw [rawBytes_cons_length, ← Nat.add_assoc, seqItems_loop_at xs hxs _ fuel _ hat.right (Nat.le_of_succ_le_succ hf)]
    simp [rawNodes]

theorem seqItems_node {f : LenForm} {t : Nat} (xs : List RawTlv) (h : ∀ x ∈ xs, x.ok)
    (hat : At data i (Spec.tlv f t (rawBytes xs))) (fuel : Nat) (hf : xs.length ≤ fuel + 1) :
    seqItems data (nodeAtLen f t (rawBytes xs) i).slice fuel
      = .ok (rawNodes (i + 1 + (specLength f (rawBytes xs).length).length) xs) :=
  seqItems_at xs h hat.content fuel hf

/-- every TLV of a run lies at its offset (the offsets are those of `rawNodes`) -/
def RunAt (data : Bytes) : Nat → List RawTlv → Prop
  | _, [] => True
  | i, x :: xs => At data i (Spec.tlv x.f x.t x.c) ∧ RunAt data (i + x.bytes.length) xs

theorem At.run : ∀ {i : Nat} {xs : List RawTlv}, At data i (rawBytes xs) → RunAt data i xs
  | _, [], _ => trivial
  | _, _ :: _, h => ⟨h.left, At.run h.right⟩

end Snmp.Ber
