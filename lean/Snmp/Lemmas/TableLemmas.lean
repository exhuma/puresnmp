/-
  Lemmas about the `tablify` model: dictionary assignment in terms of lookups, what one iteration
  does to a cell (`cellAt_step`), and the invariants of the loop (cells present, nothing invented,
  index key, one row per index), each an instance of the rule `fold_ends`.
-/
import Snmp.Model.Table
namespace Snmp.Table
open Snmp.Py

variable {κ ν : Type} [BEq κ]

theorem lookup_nil (k : κ) : lookup ([] : List (κ × ν)) k = none := rfl

theorem lookup_cons (p : κ × ν) (d : List (κ × ν)) (k : κ) :
    lookup (p :: d) k = if p.1 == k then some p.2 else lookup d k := by
  unfold lookup
  rw [List.find?_cons]
  cases p.1 == k <;> rfl

theorem lookup_append (d e : List (κ × ν)) (k : κ) :
    lookup (d ++ e) k = (lookup d k).or (lookup e k) := by
  rw [lookup, List.find?_append, Option.map_or]; rfl

theorem lookup_isSome_iff (d : List (κ × ν)) (k : κ) :
    (lookup d k).isSome = d.any (·.1 == k) := by
  rw [Bool.eq_iff_iff, lookup, Option.isSome_map, List.find?_isSome, List.any_eq_true]

theorem keys_dictSet (d : List (κ × ν)) (k : κ) (v : ν) :
    (dictSet d k v).map (·.1) = if d.any (·.1 == k) then d.map (·.1) else d.map (·.1) ++ [k] := by
  unfold dictSet
  by_cases ha : d.any (fun p => p.1 == k) = true
  · rw [if_pos ha, if_pos ha, List.map_map]
    exact List.map_congr_left fun p _ => by dsimp only [Function.comp]; split <;> rfl
  · rw [if_neg ha, if_neg ha, List.map_append]; rfl

variable [LawfulBEq κ]

theorem lookup_map_replace (d : List (κ × ν)) (k k' : κ) (v : ν) :
    lookup (d.map fun p => if p.1 == k then (p.1, v) else p) k' =
      if k' == k then (if d.any (·.1 == k) then some v else none) else lookup d k' := by
  induction d with
  | nil => exact (ite_self _).symm
  | cons p d ih =>
    simp only [List.map_cons, lookup_cons, List.any_cons, ih]
    by_cases hp : p.1 = k
    · by_cases hk : k' = k
      · subst hk; subst hp; simp
      · subst hp
        have h1 : ¬ (p.1 = k') := fun h => hk h.symm
        simp [hk, h1]
    · have hb : (p.1 == k) = false := beq_false_of_ne hp
      by_cases hk : k' = k
      · subst hk; simp only [hb, Bool.false_or, Bool.false_eq_true, if_false]
      · have hkb : (k' == k) = false := beq_false_of_ne hk
        simp only [hb, hkb, Bool.false_or, Bool.false_eq_true, if_false]

theorem lookup_dictSet (d : List (κ × ν)) (k k' : κ) (v : ν) :
    lookup (dictSet d k v) k' = if k' == k then some v else lookup d k' := by
  unfold dictSet
  by_cases ha : d.any (fun p => p.1 == k) = true
  · rw [if_pos ha, lookup_map_replace, if_pos ha]
  · rw [if_neg ha, lookup_append, lookup_cons, lookup_nil]
    by_cases hk : k' = k
    · subst hk
      have hn : lookup d k' = none := Option.not_isSome_iff_eq_none.mp (by rw [lookup_isSome_iff]; exact ha)
      rw [hn, if_pos (beq_self_eq_true _)]; rfl
    · rw [if_neg (mt beq_iff_eq.mp (Ne.symm hk)), if_neg (mt beq_iff_eq.mp hk)]
      exact Option.or_none

theorem mem_keys_iff_any (d : List (κ × ν)) (k : κ) : k ∈ d.map (·.1) ↔ d.any (·.1 == k) = true := by
  simp only [List.mem_map, List.any_eq_true, beq_iff_eq]

theorem nodup_keys_dictSet (d : List (κ × ν)) (k : κ) (v : ν) (h : (d.map (·.1)).Nodup) :
    ((dictSet d k v).map (·.1)).Nodup := by
  rw [keys_dictSet]
  split
  · exact h
  · rename_i ha
    refine List.nodup_append.mpr ⟨h, List.pairwise_singleton _ k, fun a ha' b hb hab => ?_⟩
    rw [hab, List.mem_singleton.mp hb] at ha'
    exact ha ((mem_keys_iff_any d k).mp ha')

theorem mem_keys_dictSet (d : List (κ × ν)) (k k' : κ) (v : ν) :
    k' ∈ (dictSet d k v).map (·.1) ↔ k' ∈ d.map (·.1) ∨ k' = k := by
  rw [keys_dictSet]
  split
  · rename_i ha
    exact ⟨Or.inl, fun h => h.elim id fun e => e ▸ (mem_keys_iff_any d k).mpr ha⟩
  · rw [List.mem_append, List.mem_singleton]

theorem lookup_some_mem_keys (d : List (κ × ν)) (k : κ) (x : ν) (h : lookup d k = some x) : k ∈ d.map (·.1) := by
  rw [mem_keys_iff_any, ← lookup_isSome_iff, h]; rfl

theorem lookup_of_mem_nodup (d : List (κ × ν)) (k : κ) (x : ν) (hn : (d.map (·.1)).Nodup) (h : (k, x) ∈ d) :
    lookup d k = some x := by
  induction d with
  | nil => cases h
  | cons p d ih =>
    have hn := List.nodup_cons.mp hn
    rw [lookup_cons]
    rcases List.mem_cons.mp h with h | h
    · rw [← h, if_pos (beq_self_eq_true k)]
    · rw [if_neg fun hb => hn.1 (List.mem_map.mpr ⟨(k, x), h, (eq_of_beq hb).symm⟩), ih hn.2 h]

/-- the cell stored for row `id` under column key `k` -/
def cellAt (rows : Rows) (id : List Nat) (k : Nat) : Option Cell := (lookup rows id).bind (lookup · k)

theorem step_ok {n : Nat} {rows rows' : Rows} {vb : VarBind} (h : step n rows vb = .ok rows') :
    ∃ col id, vb.1.drop n = col :: id ∧
      rows' = dictSet rows id (dictSet ((lookup rows id).getD [(0, .idx id)]) col (.val vb.2)) := by
  unfold step at h
  split at h
  · cases h
  · rename_i col id heq
    cases h
    exact ⟨col, id, heq, rfl⟩

/-- what one iteration does to the cell `(id', k)`: the addressed cell gets the value, a new row
    starts with its index under key 0, everything else stays -/
theorem cellAt_step {n : Nat} {rows rows' : Rows} {vb : VarBind} {col : Nat} {id : List Nat}
    (h : step n rows vb = .ok rows') (hd : vb.1.drop n = col :: id) (id' : List Nat) (k : Nat) :
    cellAt rows' id' k =
      if id' = id then
        if k = col then some (.val vb.2)
        else if id ∈ rows.map (·.1) then cellAt rows id k
        else if k = 0 then some (.idx id) else none
      else cellAt rows id' k := by
  rcases step_ok h with ⟨c, i, hd', rfl⟩
  rw [hd] at hd'
  cases hd'
  unfold cellAt
  rw [lookup_dictSet]
  by_cases hid : id' = id
  · subst hid
    rw [if_pos (beq_self_eq_true _), if_pos rfl, Option.bind_some, lookup_dictSet]
    by_cases hk : k = col
    · rw [if_pos (beq_iff_eq.mpr hk), if_pos hk]
    · rw [if_neg (mt beq_iff_eq.mp hk), if_neg hk]
      cases hl : lookup rows id' with
      | none =>
        have : id' ∉ rows.map (·.1) := fun hm => by
          rw [mem_keys_iff_any, ← lookup_isSome_iff, hl] at hm; cases hm
        rw [if_neg this, Option.getD_none, lookup_cons, lookup_nil]
        cases k <;> rfl
      | some row => rw [if_pos (lookup_some_mem_keys _ _ _ hl)]; rfl
  · rw [if_neg (mt beq_iff_eq.mp hid), if_neg hid]

theorem fold_ok_of_long (n : Nat) (vbs : List VarBind) (rows : Rows) (h : ∀ vb ∈ vbs, n < vb.1.length) :
    ∃ final, fold n rows vbs = .ok final := by
  induction vbs generalizing rows with
  | nil => exact ⟨rows, rfl⟩
  | cons vb rest ih =>
    cases hd : vb.1.drop n with
    | nil => exact absurd (List.drop_eq_nil_iff.mp hd) (Nat.not_le.mpr (h vb List.mem_cons_self))
    | cons col id =>
      rw [fold, step, hd]
      exact ih _ fun v hv => h v (List.mem_cons_of_mem _ hv)

/-- **Invariant rule for the loop of `tablify`**: a property of (bindings processed, rows built) that
    holds at the start and is kept by every iteration holds at the end. -/
theorem fold_ends {n : Nat} {vbs : List VarBind} {rows final : Rows} (I : List VarBind → Rows → Prop)
    (h0 : I [] rows)
    (hstep : ∀ pre vb mid next, pre ++ [vb] <+: vbs → I pre mid → step n mid vb = .ok next → I (pre ++ [vb]) next)
    (hf : fold n rows vbs = .ok final) : I vbs final := by
  suffices ∀ rest pre mid, pre ++ rest = vbs → I pre mid → fold n mid rest = .ok final → I vbs final from
    this vbs [] rows rfl h0 hf
  intro rest
  induction rest with
  | nil =>
    intro pre mid hp hi hf
    rw [List.append_nil] at hp
    cases hf
    exact hp ▸ hi
  | cons vb rest ih =>
    intro pre mid hp hi hf
    rw [← List.singleton_append, ← List.append_assoc] at hp
    rw [fold] at hf
    cases hs : step n mid vb with
    | error e => simp [hs] at hf
    | ok next => exact ih _ next hp (hstep pre vb mid next ⟨rest, hp⟩ hi hs) (by simpa only [hs] using hf)

theorem cells_present (n : Nat) (vbs : List VarBind) (rows final : Rows)
    (hf : fold n rows vbs = .ok final) (hd : (vbs.map (·.1.drop n)).Nodup) :
    ∀ vb ∈ vbs, ∀ col id, vb.1.drop n = col :: id → cellAt final id col = some (.val vb.2) :=
  fold_ends (fun pre r => ∀ vb ∈ pre, ∀ col id, vb.1.drop n = col :: id → cellAt r id col = some (.val vb.2))
    (fun _ h => nomatch h) (fun pre w mid next hpre ih hs vb hvb col id hdrop => by
      rcases step_ok hs with ⟨c, i, hdw, _⟩
      rw [cellAt_step hs hdw]
      rcases List.mem_append.mp hvb with h | h
      · -- an earlier binding: `w` addresses another cell, in a row that is there already
        have hne : vb.1.drop n ≠ w.1.drop n := by
          have := hd.sublist (hpre.sublist.map _)
          rw [List.map_append, List.nodup_append] at this
          exact this.2.2 _ (List.mem_map_of_mem h) _ (by simp)
        rw [hdrop, hdw] at hne
        have hold := ih vb h col id hdrop
        by_cases hid : id = i
        · subst hid
          have hrow : id ∈ mid.map (·.1) := by
            cases hl : lookup mid id with
            | none => simp [cellAt, hl] at hold
            | some row => exact lookup_some_mem_keys _ _ _ hl
          rwa [if_pos rfl, if_neg fun hk => hne (by rw [hk]), if_pos hrow]
        · rwa [if_neg hid]
      · rw [List.mem_singleton.mp h, hdw] at hdrop
        cases hdrop
        rw [if_pos rfl, if_pos rfl, List.mem_singleton.mp h]) hf

theorem cells_sound (n : Nat) (vbs : List VarBind) (rows final : Rows) (id : List Nat) (k : Nat) (v : Val)
    (hf : fold n rows vbs = .ok final) (hc : cellAt final id k = some (.val v)) :
    cellAt rows id k = some (.val v) ∨ ∃ vb ∈ vbs, vb.1.drop n = k :: id ∧ vb.2 = v :=
  fold_ends (fun pre r => cellAt r id k = some (.val v) →
      cellAt rows id k = some (.val v) ∨ ∃ vb ∈ pre, vb.1.drop n = k :: id ∧ vb.2 = v)
    Or.inl (fun pre w mid next _ ih hs h => by
      have old : cellAt mid id k = some (.val v) →
          cellAt rows id k = some (.val v) ∨ ∃ vb ∈ pre ++ [w], vb.1.drop n = k :: id ∧ vb.2 = v := fun h =>
        (ih h).imp_right fun ⟨vb, hvb, h⟩ => ⟨vb, List.mem_append_left _ hvb, h⟩
      rcases step_ok hs with ⟨col, i, hd, _⟩
      rw [cellAt_step hs hd] at h
      by_cases hid : id = i
      · subst hid
        by_cases hk : k = col
        · subst hk
          rw [if_pos rfl, if_pos rfl] at h
          cases h
          exact Or.inr ⟨w, List.mem_append_right _ (List.mem_singleton_self w), hd, rfl⟩
        · rw [if_pos rfl, if_neg hk] at h
          by_cases hm : id ∈ mid.map (·.1)
          · exact old (by rwa [if_pos hm] at h)
          · -- a new row: its only other cell is the index
            rw [if_neg hm] at h
            by_cases h0 : k = 0 <;> simp [h0] at h
      · exact old (by rwa [if_neg hid] at h)) hf hc

/-- the state invariant of the loop: distinct row ids, every row carries its own index under
    key 0 -/
def Indexed (rows : Rows) : Prop :=
  (rows.map (·.1)).Nodup ∧ ∀ id ∈ rows.map (·.1), cellAt rows id 0 = some (.idx id)

theorem indexed_nil : Indexed [] := ⟨List.nodup_nil, fun _ h => nomatch h⟩

theorem indexed_step {n : Nat} {rows rows' : Rows} {vb : VarBind} (hg : Indexed rows)
    (h : step n rows vb = .ok rows') (hcol : ∀ col id, vb.1.drop n = col :: id → col ≠ 0) : Indexed rows' := by
  rcases step_ok h with ⟨col, i, hd, hr⟩
  refine ⟨hr ▸ nodup_keys_dictSet _ _ _ hg.1, fun id hid => ?_⟩
  rw [cellAt_step h hd, if_neg (hcol col i hd).symm, if_pos rfl]
  rw [hr, mem_keys_dictSet] at hid
  by_cases hi : id = i
  · subst hi
    rw [if_pos rfl]
    split
    · rename_i hm; exact hg.2 id hm
    · rfl
  · rw [if_neg hi]
    exact hg.2 id (hid.resolve_right hi)

theorem indexed_fold (n : Nat) (vbs : List VarBind) (rows final : Rows) (hg : Indexed rows)
    (hf : fold n rows vbs = .ok final)
    (hcol : ∀ vb ∈ vbs, ∀ col id, vb.1.drop n = col :: id → col ≠ 0) : Indexed final :=
  fold_ends (fun _ r => Indexed r) hg (fun _ w _ _ hpre ih hs =>
    indexed_step ih hs (hcol w (hpre.subset (by simp)))) hf

theorem keys_fold (n : Nat) (vbs : List VarBind) (rows final : Rows)
    (hf : fold n rows vbs = .ok final) (id : List Nat) :
    id ∈ final.map (·.1) ↔ id ∈ rows.map (·.1) ∨ ∃ vb ∈ vbs, ∃ col, vb.1.drop n = col :: id :=
  fold_ends
    (fun pre r => id ∈ r.map (·.1) ↔ id ∈ rows.map (·.1) ∨ ∃ vb ∈ pre, ∃ col, vb.1.drop n = col :: id)
    ⟨Or.inl, fun h => h.elim (fun h => h) fun ⟨_, hvb, _⟩ => nomatch hvb⟩ (fun pre w mid next _ ih hs => by
      rcases step_ok hs with ⟨col, i, hd, rfl⟩
      rw [mem_keys_dictSet, ih]
      simp only [List.mem_append, List.mem_singleton, or_and_right, exists_or, exists_eq_left, hd,
        List.cons.injEq, exists_eq_left', or_assoc, eq_comm (a := id)]) hf

end Snmp.Table
