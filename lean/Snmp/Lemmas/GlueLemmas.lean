/-
  From "an agent wrote this record in BER" to "the decoder + unpacking glue hand the operation
  logic the same record": the relations `WritesVal` / `WritesBind(s)` / `WritesPdu` / `WritesMsg`
  between TLV structures (`Enc`) and response records, and the read-back theorem.
-/
import Snmp.Lemmas.BerTree
import Snmp.Lemmas.SpecLemmas
import Snmp.Model.Glue
namespace Snmp.Glue
open Snmp Snmp.Ber Snmp.Ops

/-- where x690's reading of a value TLV coincides with the RFC reading: OID content starts below 120
    (first arc ≤ 2, second < 40: what x690 unpacks correctly), and the unsigned application integers
    have their leading bit clear.  `C06.InDomain` states the same for the property. -/
def LeafDom (t : Nat) (c : Bytes) : Prop :=
  (t = 6 → ∀ d0 rest, c = d0 :: rest → d0 < 120) ∧
  ((t = 65 ∨ t = 66 ∨ t = 67 ∨ t = 70) → ∀ b rest, c = b :: rest → b < 128)

/-- proper non-negative INTEGER content (leading bit clear) reads the same signed and unsigned -/
theorem unsigned_eq_signed (c : Bytes) (h : ∀ b rest, c = b :: rest → b < 128) :
    intDecode false c = intDecode true c := by
  cases c with
  | nil => rfl
  | cons b rest =>
    have := h b rest rfl
    have hn : ¬ 128 ≤ b := by omega
    simp [intDecode, hn]

/-- the decoded leaf a value comes from: `valOfTree` backwards -/
def treeOfVal : Val → Tree
  | .int v => .int "Integer" v
  | .counter32 v => .int "Counter" v
  | .gauge32 v => .int "Gauge" v
  | .ticks v => .int "TimeTicks" v
  | .counter64 v => .int "Counter64" v
  | .nsap v => .int "NsapAddress" v
  | .str b => .str "OctetString" b
  | .opaque b => .str "Opaque" b
  | .ip b => .str "IpAddress" b
  | .null => .null
  | .oid o => .oid o
  | .noSuchObject => .marker "NoSuchObject"
  | .noSuchInstance => .marker "NoSuchInstance"
  | .endOfMibView => .marker "EndOfMibView"
  | .unknown tag b => .raw "UnknownType" tag b

-- by the two definitions' own equations: `rfl` would have whnf decide each string comparison of `valOfTree`'s match
theorem valOfTree_treeOfVal (v : Val) : valOfTree (treeOfVal v) = some v := by cases v <;> rw [treeOfVal, valOfTree]

theorem readVal_intRow {K : Int → Val} {c : Bytes} {v : Val} (h : (Spec.readInt c).map K = some v) : v = K (intDecode true c) := by
  unfold Spec.readInt at h
  split at h <;> simp at h
  exact h.symm

theorem readVal_emptyRow {c : Bytes} {w v : Val} (h : (if c = [] then some w else none) = some v) : v = w := by
  split at h <;> simp at h
  exact h.symm

/-- a value TLV the specification reads as `v` is read out by the x690 mirror to the leaf that the
    glue turns into the same `v`; its class is a leaf class -/
theorem leaf_val (t : Nat) (c : Bytes) (v : Val) (hspec : Spec.readVal t c = some v) (hdom : LeafDom t c) :
    readLeaf (lookup t) t c = .ok (treeOfVal v) ∧ t ≠ 255 ∧ (lookup t).kind ≠ "seq" ∧ (lookup t).kind ≠ "pdu" := by
  unfold Spec.readVal at hspec
  -- by identifier octet, as the specification reader goes; the unsigned application integers need `hdom`
  split at hspec
  · obtain rfl := readVal_intRow hspec; rw [lookup_int]; exact ⟨rfl, by decide⟩
  · obtain rfl := Option.some.inj hspec; rw [lookup_str]; exact ⟨rfl, by decide⟩
  · obtain rfl := readVal_emptyRow hspec; rw [lookup_null]; exact ⟨rfl, by decide⟩
  · obtain ⟨o, ho, rfl⟩ := Option.map_eq_some_iff.mp hspec
    rw [lookup_oid]
    exact ⟨congrArg (Except.map Tree.oid) (Spec.oidDecode_of_readOid c o (hdom.1 rfl) ho), by decide⟩
  · obtain rfl := Option.some.inj hspec; rw [lookup_ip]; exact ⟨rfl, by decide⟩
  · obtain rfl := readVal_intRow hspec; rw [lookup_counter, ← unsigned_eq_signed c (hdom.2 (.inl rfl))]; exact ⟨rfl, by decide⟩
  · obtain rfl := readVal_intRow hspec; rw [lookup_gauge, ← unsigned_eq_signed c (hdom.2 (.inr (.inl rfl)))]; exact ⟨rfl, by decide⟩
  · obtain rfl := readVal_intRow hspec; rw [lookup_ticks, ← unsigned_eq_signed c (hdom.2 (.inr (.inr (.inl rfl))))]; exact ⟨rfl, by decide⟩
  · obtain rfl := Option.some.inj hspec; rw [lookup_opaque]; exact ⟨rfl, by decide⟩
  · obtain rfl := readVal_intRow hspec; rw [lookup_nsap]; exact ⟨rfl, by decide⟩
  · obtain rfl := readVal_intRow hspec; rw [lookup_counter64, ← unsigned_eq_signed c (hdom.2 (.inr (.inr (.inr rfl))))]; exact ⟨rfl, by decide⟩
  · obtain rfl := readVal_emptyRow hspec; rw [lookup_noSuchObject]; exact ⟨rfl, by decide⟩
  · obtain rfl := readVal_emptyRow hspec; rw [lookup_noSuchInstance]; exact ⟨rfl, by decide⟩
  · obtain rfl := readVal_emptyRow hspec; rw [lookup_endOfMibView]; exact ⟨rfl, by decide⟩
  · cases hspec

/-- `e` is one value TLV, in any definite length form, that the specification reads as `v` -/
def WritesVal (e : Enc) (v : Val) : Prop :=
  ∃ f t c, e = .prim f t c ∧ f.ok c.length ∧ Spec.readVal t c = some v ∧ LeafDom t c

/-- a binding: a sequence of exactly the name and the value -/
def WritesBind (e : Enc) (vb : VarBind) : Prop :=
  ∃ f t eo ev, e = .cons f t [eo, ev] ∧ f.ok (Enc.bytesL [eo, ev]).length ∧ t ≠ 255 ∧
    (lookup t).kind = "seq" ∧ WritesVal eo (.oid vb.1) ∧ WritesVal ev vb.2

inductive WritesBinds : List Enc → List VarBind → Prop where
  | nil : WritesBinds [] []
  | cons {e es vb vbs} : WritesBind e vb → WritesBinds es vbs → WritesBinds (e :: es) (vb :: vbs)

/-- a PDU of class `cls` with content `p`.  `noDefaultCtor cls = false`: `x690.decode` instantiates the
    registered class without arguments and fails for the PDU classes that have no such constructor
    (`decodeAt`).  The binding list has to be registered under the very name "Sequence", because
    `PDU.decode_raw` checks the type of its fourth item (`d.entry.name` in `readNode`); a single binding is
    only iterated over, so any class registered as a sequence will do there (`WritesBind`). -/
def WritesPdu (e : Enc) (cls : String) (p : PduResp) : Prop :=
  ∃ f t fl tl erid ees eei items, e = .pdu f t [erid, ees, eei, .cons fl tl items] ∧
    f.ok (Enc.bytesL [erid, ees, eei, .cons fl tl items]).length ∧ t ≠ 255 ∧
    (lookup t).kind = "pdu" ∧ (lookup t).name = cls ∧ Gen.noDefaultCtor.contains cls = false ∧
    fl.ok (Enc.bytesL items).length ∧ tl ≠ 255 ∧ (lookup tl).kind = "seq" ∧ (lookup tl).name = "Sequence" ∧
    WritesVal erid (.int p.requestId) ∧ WritesVal ees (.int p.errorStatus) ∧ WritesVal eei (.int p.errorIndex) ∧
    WritesBinds items p.varbinds

/-- a community message: version, community, PDU -/
def WritesMsg (e : Enc) (m : RespMsg) (cls : String) : Prop :=
  ∃ f t ev ec ep, e = .cons f t [ev, ec, ep] ∧ f.ok (Enc.bytesL [ev, ec, ep]).length ∧ t ≠ 255 ∧
    (lookup t).kind = "seq" ∧ WritesVal ev (.int m.version) ∧ WritesVal ec (.str m.community) ∧
    WritesPdu ep cls m.pdu

theorem writesVal_read {e : Enc} {v : Val} (h : WritesVal e v) : e.WF ∧ e.tree = .ok (treeOfVal v) := by
  obtain ⟨f, t, c, rfl, hf, hspec, hdom⟩ := h
  obtain ⟨h1, h3, h4, h5⟩ := leaf_val t c v hspec hdom
  exact ⟨⟨hf, ⟨h3, ctor_of_not_pdu t h5⟩, h4, h5⟩, h1⟩

/-- the identifier octet the specification reads a value of each class from -/
def valTag : Val → Nat
  | .int _ => 2 | .str _ => 4 | .null => 5 | .oid _ => 6 | .ip _ => 64 | .counter32 _ => 65 | .gauge32 _ => 66
  | .ticks _ => 67 | .opaque _ => 68 | .nsap _ => 69 | .counter64 _ => 70 | .noSuchObject => 128
  | .noSuchInstance => 129 | .endOfMibView => 130 | .unknown t _ => t

/-- the identifier octet determines the class of the value the specification reader returns, and the
    reader knows every class it accepts -/
theorem readVal_tag {t : Nat} {c : Bytes} {v : Val} (h : Spec.readVal t c = some v) :
    t = valTag v ∧ ∀ tag b, v ≠ .unknown tag b := by
  unfold Spec.readVal at h
  split at h
  · obtain rfl := readVal_intRow h; exact ⟨rfl, nofun⟩
  · obtain rfl := Option.some.inj h; exact ⟨rfl, nofun⟩
  · obtain rfl := readVal_emptyRow h; exact ⟨rfl, nofun⟩
  · obtain ⟨o, -, rfl⟩ := Option.map_eq_some_iff.mp h; exact ⟨rfl, nofun⟩
  · obtain rfl := Option.some.inj h; exact ⟨rfl, nofun⟩
  · obtain rfl := readVal_intRow h; exact ⟨rfl, nofun⟩
  · obtain rfl := readVal_intRow h; exact ⟨rfl, nofun⟩
  · obtain rfl := readVal_intRow h; exact ⟨rfl, nofun⟩
  · obtain rfl := Option.some.inj h; exact ⟨rfl, nofun⟩
  · obtain rfl := readVal_intRow h; exact ⟨rfl, nofun⟩
  · obtain rfl := readVal_intRow h; exact ⟨rfl, nofun⟩
  · obtain rfl := readVal_emptyRow h; exact ⟨rfl, nofun⟩
  · obtain rfl := readVal_emptyRow h; exact ⟨rfl, nofun⟩
  · obtain rfl := readVal_emptyRow h; exact ⟨rfl, nofun⟩
  · cases h

theorem readVal_int_tag {t : Nat} {c : Bytes} {v : Int} (h : Spec.readVal t c = some (.int v)) : t = 2 :=
  (readVal_tag h).1

theorem writesVal_int_shape {e : Enc} {v : Int} (h : WritesVal e (.int v)) : e.isIntPrim := by
  obtain ⟨f, t, c, rfl, _, hspec, _⟩ := h
  obtain rfl := readVal_int_tag hspec
  exact congrArg Entry.kind lookup_int

theorem writesBind_read {e : Enc} {vb : VarBind} (h : WritesBind e vb) :
    e.WF ∧ e.isPair ∧ ∃ tr, e.tree = .ok tr ∧ bindOfTree tr = some vb := by
  obtain ⟨f, t, eo, ev, rfl, hf, ht, hk, ho, hv⟩ := h
  obtain ⟨wo, hto⟩ := writesVal_read ho
  obtain ⟨wv, htv⟩ := writesVal_read hv
  refine ⟨wf_cons hf ht hk ⟨wo, wv, trivial⟩, trivial,
    .seq (lookup t).name [.oid vb.1, treeOfVal vb.2], ?_, ?_⟩
  · simp only [Enc.tree, Enc.treeL, hto, htv, bind, Except.bind, pure, Except.pure, treeOfVal]
  · simp [bindOfTree, valOfTree_treeOfVal]

theorem writesBinds_read {es : List Enc} {vbs : List VarBind} (h : WritesBinds es vbs) :
    Enc.WFL es ∧ (∀ it ∈ es, it.isPair) ∧ ∃ trs, Enc.treeL es = .ok trs ∧ trs.mapM bindOfTree = some vbs := by
  induction h with
  | nil => exact ⟨trivial, nofun, [], rfl, rfl⟩
  | cons h _ ih =>
    obtain ⟨w1, p1, tr, ht, hb⟩ := writesBind_read h
    obtain ⟨w2, p2, trs, hts, hbs⟩ := ih
    refine ⟨⟨w1, w2⟩, List.forall_mem_cons.2 ⟨p1, p2⟩, tr :: trs, ?_, ?_⟩
    · simp only [Enc.treeL, ht, hts, bind, Except.bind, pure, Except.pure]
    · simp [List.mapM_cons, hb, hbs]

theorem writesPdu_read {e : Enc} {cls : String} {p : PduResp} (h : WritesPdu e cls p) :
    e.WF ∧ ∃ tr, e.tree = .ok tr ∧ pduOfTree tr = some (cls, p) := by
  obtain ⟨f, t, fl, tl, erid, ees, eei, items, rfl, hf, ht, hk, hn, hctor, hfl, htl, hkl, hnl, h1, h2, h3, hb⟩ := h
  obtain ⟨w1, e1⟩ := writesVal_read h1
  obtain ⟨w2, e2⟩ := writesVal_read h2
  obtain ⟨w3, e3⟩ := writesVal_read h3
  obtain ⟨wb, pb, trs, hts, hbs⟩ := writesBinds_read hb
  refine ⟨?_, .seq (lookup t).name [.int "Integer" p.requestId, .int "Integer" p.errorStatus, .int "Integer" p.errorIndex,
    .seq (lookup tl).name trs], ?_, ?_⟩
  · exact ⟨hf, ⟨ht, hn ▸ hctor⟩, hk, ⟨w1, w2, w3, wf_cons hfl htl hkl wb, trivial⟩,
      writesVal_int_shape h1, writesVal_int_shape h2, writesVal_int_shape h3, hnl, pb⟩
  · simp only [Enc.tree, Enc.treeL, e1, e2, e3, hts, bind, Except.bind, pure, Except.pure, treeOfVal]
  · simp [pduOfTree, hbs, hn]

theorem writesMsg_tree {e : Enc} {m : RespMsg} {cls : String} (h : WritesMsg e m cls) :
    e.WF ∧ ∃ n p, e.tree = .ok (.seq n [.int "Integer" m.version, .str "OctetString" m.community, p]) ∧
      pduOfTree p = some (cls, m.pdu) := by
  obtain ⟨f, t, ev, ec, ep, rfl, hf, ht, hk, hv, hc, hp⟩ := h
  obtain ⟨w1, e1⟩ := writesVal_read hv
  obtain ⟨w2, e2⟩ := writesVal_read hc
  obtain ⟨w3, t3, e3, v3⟩ := writesPdu_read hp
  refine ⟨wf_cons hf ht hk ⟨w1, w2, w3, trivial⟩, (lookup t).name, t3, ?_, v3⟩
  simp only [Enc.tree, Enc.treeL, e1, e2, e3, bind, Except.bind, pure, Except.pure, treeOfVal]

theorem msgOfBytes_writes {e : Enc} {m : RespMsg} {cls : String} (h : WritesMsg e m cls) (fuel depth : Nat)
    (hw : e.width ≤ fuel) (hd : e.depth ≤ depth) : msgOfBytes e.bytes fuel depth = some (m, cls) := by
  obtain ⟨hwf, n, p, htree, hp⟩ := writesMsg_tree h
  unfold msgOfBytes
  rw [decodeTree_enc e hwf fuel depth hw hd, htree]
  simp [msgOfTree, hp]

end Snmp.Glue
