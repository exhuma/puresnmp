/-
  Completeness and termination of a walk against a conformant agent, for any fetcher that hands the
  loop what such an agent answers (`ConformantFetch`: the bulk fetcher, the GETNEXT fetcher).
  However many repetitions the agent sends and wherever it shortens the response, every column
  `varbinds[i::n]` is a chain of database successors of the `i`-th cursor (`column_chain`), so one
  iteration is a round in the sense of `WalkAbs.Inv.next` (`bulk_step_inv`).
-/
import Snmp.Lemmas.WalkLoop
import Snmp.Lemmas.Check
namespace Snmp.Walk
open Snmp

theorem nextOf_mem {db : List VarBind} {c : Oid} {e : VarBind} (h : Agent.nextOf db c = some e) : e ∈ db ∧ c < e.1 :=
  ⟨List.mem_of_find?_eq_some h, by simpa using List.find?_some h⟩

theorem nextOf_none_of_lt {db : List VarBind} {q p : Oid} (h : Agent.nextOf db q = none) (hqp : q < p) :
    Agent.nextOf db p = none :=
  List.find?_eq_none.mpr fun e he hpe =>
    List.find?_eq_none.mp h e he (decide_eq_true (Std.lt_trans hqp (of_decide_eq_true hpe)))

theorem nextOf_map (db : List VarBind) (o : Oid) :
    WalkAbs.nextOf (db.map (·.1)) o = (Agent.nextOf db o).map (·.1) := by
  unfold WalkAbs.nextOf Agent.nextOf
  rw [List.find?_map]
  rfl

/-- GETNEXT of the conformant agent (endOfMibView keeps the requested OID) -/
def nextE (db : List VarBind) (o : Oid) : VarBind := Agent.conformant db o 0

theorem nextE_some {db : List VarBind} {o : Oid} {e : VarBind} (h : Agent.nextOf db o = some e) : nextE db o = e := by
  simp [nextE, Agent.conformant, h]

theorem nextE_none {db : List VarBind} {o : Oid} (h : Agent.nextOf db o = none) : nextE db o = (o, .endOfMibView) := by
  simp [nextE, Agent.conformant, h]

theorem nextE_notEom {db : List VarBind} (hv : ∀ vb ∈ db, vb.2.isEom = false) (o : Oid) :
    notEom (nextE db o) = true ↔ ∃ e, Agent.nextOf db o = some e := by
  cases h : Agent.nextOf db o with
  | none => simp [nextE_none h, notEom, Val.isEom]
  | some e =>
    simp [nextE_some h, notEom, hv e (nextOf_mem h).1]

theorem nextOf_none_of_eom {db : List VarBind} (hv : ∀ vb ∈ db, vb.2.isEom = false) {o : Oid}
    (h : notEom (nextE db o) = false) : Agent.nextOf db o = none :=
  Option.eq_none_iff_forall_ne_some.mpr fun e he =>
    Bool.false_ne_true (h.symm.trans ((nextE_notEom hv o).mpr ⟨e, he⟩))

/-- `k` repetitions, flattened: every repetition answers the OIDs of the one before -/
def rowsFlat (db : List VarBind) : Nat → List Oid → List VarBind
  | 0, _ => []
  | k + 1, cs => cs.map (nextE db) ++ rowsFlat db k ((cs.map (nextE db)).map (·.1))

/-- the first `ℓ` successors of `c` in the database -/
def chain (db : List VarBind) : Nat → Oid → List VarBind
  | 0, _ => []
  | ℓ + 1, c => match Agent.nextOf db c with
    | some e => e :: chain db ℓ e.1
    | none => []

theorem chain_length_le (db : List VarBind) : ∀ (ℓ : Nat) (c : Oid), (chain db ℓ c).length ≤ ℓ
  | 0, _ => Nat.le_refl 0
  | ℓ + 1, c => by
    unfold chain
    split
    · rename_i e _
      exact Nat.succ_le_succ (chain_length_le db ℓ e.1)
    · exact Nat.zero_le _

theorem rowsFlat_length (db : List VarBind) : ∀ (k : Nat) (cs : List Oid), (rowsFlat db k cs).length = k * cs.length
  | 0, _ => (Nat.zero_mul _).symm
  | k + 1, cs => by
    rw [rowsFlat, List.length_append, rowsFlat_length db k, List.length_map, List.length_map, List.length_map,
      Nat.succ_mul, Nat.add_comm]

theorem rowsFlat_one (db : List VarBind) (cs : List Oid) : rowsFlat db 1 cs = cs.map (nextE db) := by
  rw [rowsFlat, rowsFlat, List.append_nil]

theorem takeWhile_stop {α} (p : α → Bool) : ∀ (l : List α) (h : (l.takeWhile p).length < l.length),
    p (l[(l.takeWhile p).length]'h) = false
  | [], h => by simp at h
  | x :: l, h => by
    by_cases hx : p x = true
    · simp only [List.takeWhile_cons, hx, ↓reduceIte, List.length_cons, List.getElem_cons_succ] at h ⊢
      exact takeWhile_stop p l (Nat.lt_of_succ_lt_succ h)
    · simp only [List.takeWhile_cons, hx, Bool.false_eq_true, ↓reduceIte, List.length_nil, List.getElem_cons_zero]

theorem rowsFlat_lag (db : List VarBind) : ∀ (k : Nat) (cs : List Oid),
    Lag (fun p v => v = nextE db p) cs (rowsFlat db k cs)
  | 0, _, _, _, _, _, h => by simp [rowsFlat] at h
  | k + 1, cs, j, p, v, hp, h => by
    rw [rowsFlat] at h hp
    by_cases hj : j < cs.length
    · rw [List.getElem?_append_left (by simpa using hj), List.getElem?_map] at h
      rw [List.getElem?_append_left hj] at hp
      rw [hp] at h
      exact (Option.some.inj h).symm
    · rw [List.getElem?_append_right (by simpa using Nat.le_of_not_lt hj), List.length_map] at h
      rw [List.getElem?_append_right (Nat.le_of_not_lt hj), List.map_append] at hp
      exact rowsFlat_lag db k _ (j - cs.length) p v hp h

/-- a binding that the cuts (at `L`, at the first endOfMibView) keep is the database successor of
    the entry `cs.length` places before it in `cs ++ response` -/
theorem kept_succ (db : List VarBind) (hv : ∀ vb ∈ db, vb.2.isEom = false) (k : Nat) (cs : List Oid) (L : Nat) :
    Lag (fun p v => Agent.nextOf db p = some v) cs (((rowsFlat db k cs).take L).takeWhile notEom) := by
  intro j p v hp hjv
  obtain rfl := (rowsFlat_lag db k cs).prefix ((List.takeWhile_prefix _).trans (List.take_prefix _ _)) j p v hp hjv
  obtain ⟨e, he⟩ := (nextE_notEom hv p).mp (List.all_eq_true.mp List.all_takeWhile _ (List.mem_of_getElem? hjv))
  rw [he, nextE_some he]

/-- a list in which every binding is the database successor of the one before it (of `c` for the
    first) is the chain from `c` of that length -/
theorem chain_of_succ (db : List VarBind) : ∀ (C : List VarBind) (c : Oid),
    Lag (fun p v => Agent.nextOf db p = some v) [c] C → C = chain db C.length c
  | [], _, _ => rfl
  | v :: C, c, h => by
    have h0 : Agent.nextOf db c = some v := h 0 c v rfl rfl
    have ih := chain_of_succ db C v.1 (fun j p w hp hw => h (j + 1) p w hp hw)
    simp only [List.length_cons, chain, h0]
    rw [← ih]

/-- **Columns are successor chains.**  Whatever number of repetitions `k` the agent produces and
    wherever it shortens the response (`L`), after the endOfMibView cut the bindings at positions
    `i, i+n, i+2n, …` are exactly the first `ℓ` database successors of the `i`-th requested OID. -/
theorem column_chain (db : List VarBind) (hv : ∀ vb ∈ db, vb.2.isEom = false) :
    ∀ (k : Nat) (cs : List Oid) (L i : Nat) (hi : i < cs.length),
      ∃ ℓ, Py.stride (((rowsFlat db k cs).take L).takeWhile notEom) i cs.length = chain db ℓ cs[i] ∧
        (chain db ℓ cs[i]).length = ℓ ∧
        (ℓ = 0 → L ≤ i ∨ k = 0 ∨ ∃ j, j ≤ i ∧ ∃ hj : j < cs.length, Agent.nextOf db cs[j] = none) := by
  intro k cs L i hi
  have hn : 0 < cs.length := Nat.zero_lt_of_lt hi
  have h1 := chain_of_succ db _ cs[i] ((kept_succ db hv k cs L).column i hi)
  refine ⟨_, h1, (congrArg List.length h1).symm, fun h0 => ?_⟩
  -- an empty column: the response ends at or before position `i`
  have hPi := List.getElem?_eq_none_iff.mpr (Nat.le_of_eq h0)
  rw [stride_getElem? _ _ _ _ hn, Nat.zero_mul, Nat.add_zero, List.getElem?_eq_none_iff] at hPi
  by_cases hL : L ≤ i
  · exact Or.inl hL
  by_cases hk : k = 0
  · exact Or.inr (Or.inl hk)
  -- it is the cut at the first endOfMibView that ended it, inside the first repetition
  have hiT : i < ((rowsFlat db k cs).take L).length := by
    rw [List.length_take, rowsFlat_length]
    exact Nat.lt_min.mpr ⟨Nat.lt_of_not_le hL, Nat.lt_of_lt_of_le hi (Nat.le_mul_of_pos_left _ (Nat.pos_of_ne_zero hk))⟩
  have hlt := Nat.lt_of_le_of_lt hPi hiT
  have hj := Nat.lt_of_le_of_lt hPi hi
  have hw := rowsFlat_lag db k cs _ _ _
    (by rw [List.getElem?_append_left hj]; exact List.getElem?_eq_getElem hj)
    ((List.getElem?_take_of_lt (Nat.lt_of_le_of_lt hPi (Nat.lt_of_not_le hL))).symm.trans (List.getElem?_eq_getElem hlt))
  exact Or.inr (Or.inr ⟨_, hPi, hj, nextOf_none_of_eom hv (hw ▸ takeWhile_stop notEom _ hlt)⟩)

/-- every response of a conformant agent — any number of repetitions, shortened anywhere — passes
    the per-column successor check of the bulk fetcher -/
theorem cc_conformant (db : List VarBind) (hv : ∀ vb ∈ db, vb.2.isEom = false) :
    ∀ (k : Nat) (cs : List Oid) (L : Nat),
      checkColumns cs.length cs 0 (((rowsFlat db k cs).take L).takeWhile notEom) = true :=
  fun k cs L => (checkColumns_iff _ _).mpr ((kept_succ db hv k cs L).mono fun _ _ h => (nextOf_mem h).2)

theorem chain_mem_db (db : List VarBind) : ∀ (ℓ : Nat) (c : Oid), ∀ e ∈ chain db ℓ c, e ∈ db
  | 0, _, e, h => by simp [chain] at h
  | ℓ + 1, c, e, h => by
    unfold chain at h
    split at h
    · rename_i e1 he1
      rcases List.mem_cons.mp h with rfl | h'
      · exact (nextOf_mem he1).1
      · exact chain_mem_db db ℓ e1.1 e h'
    · simp at h

theorem chain_keys {db : List VarBind} (hs : WalkAbs.Sorted (db.map (·.1))) : ∀ (ℓ : Nat) (c : Oid),
    (chain db ℓ c).map (·.1) = (WalkAbs.above (db.map (·.1)) c).take ℓ
  | 0, _ => rfl
  | ℓ + 1, c => by
    have hn := nextOf_map db c
    rw [chain]
    cases he : Agent.nextOf db c with
    | none =>
      rw [he] at hn
      rw [WalkAbs.above_of_nextOf_none hn]; rfl
    | some e =>
      rw [he] at hn
      rw [WalkAbs.above_of_nextOf hs hn, List.take_succ_cons, ← chain_keys hs ℓ e.1]; rfl

theorem chain_gt {db : List VarBind} (hs : WalkAbs.Sorted (db.map (·.1))) (ℓ : Nat) (c : Oid) :
    ∀ e ∈ chain db ℓ c, c < e.1 := fun _ he =>
  (WalkAbs.mem_above.mp (List.mem_of_mem_take
    (chain_keys hs ℓ c ▸ List.mem_map_of_mem (f := fun v : VarBind => v.1) he))).2

/-- a fetcher that hands the loop what a conformant agent holding `db` answers: at least one
    repetition of the successor function, cut somewhere (`L`) — inside the first repetition only
    behind a binding that is already an endOfMibView, i.e. behind a cursor without successor — and
    then at the first endOfMibView -/
def ConformantFetch (fetch : Fetcher) (db : List VarBind) : Prop :=
  ∀ cs : List Oid, cs ≠ [] → ∃ k L, 1 ≤ k ∧
    (cs.length ≤ L ∨ ∃ j, j < L ∧ ∃ hj : j < cs.length, Agent.nextOf db cs[j] = none) ∧
    fetch cs = .ok (((rowsFlat db k cs).take L).takeWhile notEom)

theorem ConformantFetch.ok {fetch : Fetcher} {db : List VarBind} (hc : ConformantFetch fetch db) {cs : List Oid}
    (hne : cs ≠ []) : ∃ vbs, fetch cs = .ok vbs :=
  let ⟨_, _, _, _, h⟩ := hc cs hne
  ⟨_, h⟩

/-- a database successor lies above its predecessor -/
theorem ConformantFetch.ascending {fetch : Fetcher} {db : List VarBind} (hv : ∀ vb ∈ db, vb.2.isEom = false)
    (hc : ConformantFetch fetch db) : Ascending fetch := by
  intro cs out hne hf
  obtain ⟨k, L, _, _, h⟩ := hc cs hne
  cases hf.symm.trans h
  exact (kept_succ db hv k cs L).mono fun _ _ h => (nextOf_mem h).2

/-- the cursors of the faithful loop as the invariant `WalkAbs.Inv` sees them: bindings reduced to
    their OIDs -/
def absCur (unf : List (Oid × VarBind)) : List (Oid × Oid) := unf.map (fun p => (p.1, p.2.1))

theorem absCur_start (roots : List Oid) : absCur (start roots) = (WalkAbs.init roots).cur := by
  simp [absCur, start, WalkAbs.init, List.map_map, Function.comp_def]

theorem placed_absCur {roots : List Oid} {unf : List (Oid × VarBind)} :
    Placed roots unf ↔ ((absCur unf).map (·.1)).Sublist roots ∧ ∀ q ∈ absCur unf, q.1 <+: q.2 := by
  rw [absCur, List.map_map, List.forall_mem_map]; exact ⟨fun h => ⟨h.sub, h.ins⟩, fun h => ⟨h.1, h.2⟩⟩

theorem _root_.Snmp.WalkAbs.Inv.placed {db roots : List Oid} {unf : List (Oid × VarBind)} {y : List Oid}
    (hi : WalkAbs.Inv db roots ⟨absCur unf, y⟩) : Placed roots unf :=
  placed_absCur.mpr ⟨hi.sub, hi.ins⟩

/-- the groups of a conformant response: per live column its root and a successor chain
    `chain db ℓ` from its cursor, `ℓ = 0` only when that cursor has no successor -/
theorem conformant_groups (db : List VarBind) (hv : ∀ vb ∈ db, vb.2.isEom = false)
    (unf : List (Oid × VarBind)) (k L : Nat) (hk : 1 ≤ k)
    (hL : unf.length ≤ L ∨ ∃ j, j < L ∧ ∃ hj : j < unf.length, Agent.nextOf db (unf[j]).2.1 = none)
    (hcur : unf.Pairwise fun p q => p.2.1 < q.2.1) :
    let P := ((rowsFlat db k (unf.map (·.2.1))).take L).takeWhile notEom
    (∀ grp ∈ cols (unf.map (·.1)) P, ∃ p ∈ unf, ∃ ℓ, grp = (p.1, chain db ℓ p.2.1)) ∧
    (∀ p ∈ unf, ∃ ℓ, (p.1, chain db ℓ p.2.1) ∈ cols (unf.map (·.1)) P ∧
      (ℓ = 0 → Agent.nextOf db p.2.1 = none)) := by
  intro P
  have key : ∀ i (hi : i < unf.length), ∃ ℓ, Py.stride P i unf.length = chain db ℓ (unf[i]).2.1 ∧
      (ℓ = 0 → Agent.nextOf db (unf[i]).2.1 = none) := by
    intro i hi
    obtain ⟨ℓ, h1, _, h3⟩ := column_chain db hv k (unf.map (·.2.1)) L i (by simpa using hi)
    simp only [List.getElem_map, List.length_map] at h1 h3
    refine ⟨ℓ, h1, fun h0 => ?_⟩
    -- a cursor at or before position `i` has no successor
    obtain ⟨j, hji, hj, hnone⟩ : ∃ j, j ≤ i ∧ ∃ hj : j < unf.length, Agent.nextOf db (unf[j]).2.1 = none := by
      rcases h3 h0 with h | h | ⟨j, hji, hj, hnone⟩
      · rcases hL with hL | ⟨j, hjL, hj', hnone⟩
        · exact absurd (Nat.lt_of_lt_of_le hi (Nat.le_trans hL h)) (Nat.lt_irrefl _)
        · exact ⟨j, Nat.le_of_lt (Nat.lt_of_lt_of_le hjL h), hj', hnone⟩
      · exact absurd hk (h ▸ Nat.not_succ_le_zero 0)
      · exact ⟨j, hji, hj, hnone⟩
    -- so neither has the `i`-th, which lies above it
    rcases Nat.lt_or_eq_of_le hji with hlt | rfl
    · exact nextOf_none_of_lt hnone (List.pairwise_iff_getElem.mp hcur j i hj hi hlt)
    · exact hnone
  constructor
  · intro grp hg
    obtain ⟨i, hi, rfl⟩ := cols_mem.mp hg
    obtain ⟨ℓ, h1, _⟩ := key i hi
    exact ⟨unf[i], List.getElem_mem hi, ℓ, by rw [h1]⟩
  · intro p hp
    obtain ⟨i, hi, rfl⟩ := List.getElem_of_mem hp
    obtain ⟨ℓ, h1, h3⟩ := key i hi
    exact ⟨ℓ, cols_mem.mpr ⟨i, hi, by rw [h1]⟩, h3⟩

/-- **One bulk iteration** against a conformant agent: the completeness invariant is kept, every
    column that stays has moved its cursor forward along the database, and only database entries
    are yielded. -/
theorem bulk_step_inv (db : List VarBind) (roots : List Oid)
    (hs : WalkAbs.Sorted (db.map (·.1))) (hv : ∀ vb ∈ db, vb.2.isEom = false)
    (hd : WalkAbs.Disjoint roots) (unf : List (Oid × VarBind)) (yielded : List Oid)
    (hi : WalkAbs.Inv (db.map (·.1)) roots ⟨absCur unf, yielded⟩)
    (k L : Nat) (hk : 1 ≤ k)
    (hL : unf.length ≤ L ∨ ∃ j, j < L ∧ ∃ hj : j < unf.length, Agent.nextOf db (unf[j]).2.1 = none) :
    let g := cols (unf.map (·.1)) (((rowsFlat db k (unf.map (·.2.1))).take L).takeWhile notEom)
    let unf' := (g.filterMap lastOf).filter (fun kl => inside kl.1 kl.2.1)
    WalkAbs.Inv (db.map (·.1)) roots ⟨absCur unf', (deduped roots g yielded).2⟩ ∧
    (∀ p' ∈ unf', ∃ p ∈ unf, (WalkAbs.above (db.map (·.1)) p'.2.1).length < (WalkAbs.above (db.map (·.1)) p.2.1).length) ∧
    (∀ vb ∈ (deduped roots g yielded).1, vb ∈ db) := by
  intro g unf'
  have hpl := hi.placed
  obtain ⟨hsub', hins'⟩ := placed_absCur.mp (hpl.next (((rowsFlat db k (unf.map (·.2.1))).take L).takeWhile notEom))
  obtain ⟨hg1, hg2⟩ := conformant_groups db hv unf k L hk hL (List.pairwise_map.mp (hpl.cursors_lt hd))
  have hdm := fun o => (deduped_mem roots g yielded o).1
  refine ⟨hi.next hs hsub' hins' (fun o ho => (hdm o).mpr (Or.inl ho)) ?_, ?_, ?_⟩
  · -- the column regrouped for a cursor is its chain: the first `ℓ` entries above it
    intro q hq
    obtain ⟨p, hp, rfl⟩ := List.mem_map.mp hq
    obtain ⟨ℓ, hgm, hzero⟩ := hg2 p hp
    refine ⟨ℓ, fun h0 => WalkAbs.nextOf_none (by rw [nextOf_map, hzero h0]; rfl), ?_, ?_⟩
    · rw [← chain_keys hs]
      intro o ho hro
      obtain ⟨e, he, rfl⟩ := List.mem_map.mp ho
      exact (hdm e.1).mpr (Or.inr ⟨List.any_eq_true.mpr ⟨p.1, hpl.sub.subset (List.mem_map_of_mem (f := (·.1)) hp),
        (inside_iff p.1 e.1).mpr hro⟩, _, hgm, e, he, rfl⟩)
    · rw [← chain_keys hs, List.getLast?_map]
      intro lst hl hrl
      obtain ⟨e, he, rfl⟩ := Option.map_eq_some_iff.mp hl
      exact List.mem_map.mpr ⟨(p.1, e), mem_live.mpr ⟨hrl, _, hgm, he⟩, rfl⟩
  · intro p' hp'
    obtain ⟨_, col, hgrp, hlast⟩ := mem_live.mp hp'
    obtain ⟨p, hp, ℓ, hcol⟩ := hg1 _ hgrp
    have hmem : p'.2 ∈ chain db ℓ p.2.1 := (Prod.mk.inj hcol).2 ▸ List.mem_of_getLast? hlast
    exact ⟨p, hp, WalkAbs.above_lt _ (chain_gt hs ℓ p.2.1 p'.2 hmem)
      (List.mem_map_of_mem (f := (·.1)) (chain_mem_db db ℓ p.2.1 p'.2 hmem))⟩
  · intro vb hvb
    obtain ⟨grp, hgrp, hm⟩ := (deduped_mem roots g yielded vb.1).2 vb hvb
    obtain ⟨p, _, ℓ, rfl⟩ := hg1 grp hgrp
    exact chain_mem_db db ℓ p.2.1 vb hm

/-- **The walk loop with a conformant fetcher**: with a budget that covers the entries still above
    the cursors, it ends normally, has yielded every entry strictly below a root, and yields
    database entries only. -/
theorem loop_complete (fetch : Fetcher) (db : List VarBind) (roots : List Oid)
    (hs : WalkAbs.Sorted (db.map (·.1))) (hv : ∀ vb ∈ db, vb.2.isEom = false)
    (hd : WalkAbs.Disjoint roots) (hc : ConformantFetch fetch db) (lenient : Bool)
    (fuel : Nat) (unf : List (Oid × VarBind)) (yielded : List Oid) (ev : List Event)
    (hi : WalkAbs.Inv (db.map (·.1)) roots ⟨absCur unf, yielded⟩)
    (hf : WalkAbs.Fuel (db.map (·.1)) fuel ⟨absCur unf, yielded⟩)
    (hev : yieldOids ev = yielded) (hdb : ∀ vb ∈ yieldsOf ev, vb ∈ db) :
    (loop fetch roots lenient fuel unf yielded ev).outcome = .done ∧
    (∀ r ∈ roots, ∀ e ∈ db, r <+: e.1 → e.1 ≠ r →
      e.1 ∈ yieldOids (loop fetch roots lenient fuel unf yielded ev).events) ∧
    (∀ vb ∈ yieldsOf (loop fetch roots lenient fuel unf yielded ev).events, vb ∈ db) := by
  obtain ⟨k, unf', y', ev', hk, ⟨hi', hf', hev', hdb'⟩, hstop, hfail⟩ := loop_ends_disjoint fetch hd lenient
    (fun n unf y ev => WalkAbs.Inv (db.map (·.1)) roots ⟨absCur unf, y⟩ ∧
      WalkAbs.Fuel (db.map (·.1)) (fuel - n) ⟨absCur unf, y⟩ ∧ yieldOids ev = y ∧ ∀ vb ∈ yieldsOf ev, vb ∈ db)
    (fun h => h.1.placed)
    (by
      intro n unf y ev vbs ⟨hi, hf, hev, hdb⟩ hne hfetch
      obtain ⟨k, L, hk, hL, hfetch'⟩ := hc (unf.map (·.2.1)) (by simpa using hne)
      cases hfetch.symm.trans hfetch'
      obtain ⟨hinv, hprog, hyd⟩ := bulk_step_inv db roots hs hv hd unf y hi k L hk
        (by simpa only [List.length_map, List.getElem_map] using hL)
      refine ⟨hinv, hf.next ?_, yieldOids_next hev roots _ _, ?_⟩
      · intro q hq
        obtain ⟨p', hp', rfl⟩ := List.mem_map.mp hq
        obtain ⟨p, hp, hlt⟩ := hprog p' hp'
        exact ⟨(p.1, p.2.1), List.mem_map_of_mem hp, hlt⟩
      · intro vb hvb
        rw [yieldsOf_step] at hvb
        exact (List.mem_append.mp hvb).elim (hdb vb) (hyd vb))
    fuel 0 unf yielded ev ⟨hi, hf, hev, hdb⟩
  rw [Nat.zero_add] at hf'
  -- a conformant fetcher answers: cursors left would mean no budget left, but the budget covers them
  obtain rfl : unf' = [] := Decidable.by_contra fun hne =>
    let ⟨vbs, hfetch⟩ := hc.ok (by simpa using hne)
    hne (List.map_eq_nil_iff.mp (hfail hne vbs hfetch ▸ hf').zero)
  rw [hstop.nil]
  exact ⟨rfl, fun r hr e he => hev' ▸ hi'.done rfl r hr e.1 (List.mem_map_of_mem (f := (·.1)) he), hdb'⟩

theorem multiwalk_complete (fetch : Fetcher) (db : List VarBind) (roots0 : List Oid) (fuel : Nat)
    (hs : WalkAbs.Sorted (db.map (·.1))) (hv : ∀ vb ∈ db, vb.2.isEom = false)
    (hd : WalkAbs.Disjoint (sortOids roots0)) (hne : sortOids roots0 ≠ []) (hc : ConformantFetch fetch db)
    (hfuel : db.length ≤ fuel) (lenient : Bool) :
    (multiwalk fetch roots0 lenient fuel).outcome = .done ∧
    (∀ r ∈ sortOids roots0, ∀ e ∈ db, r <+: e.1 → e.1 ≠ r →
      e.1 ∈ yieldOids (multiwalk fetch roots0 lenient fuel).events) ∧
    (∀ vb ∈ yieldsOf (multiwalk fetch roots0 lenient fuel).events, vb ∈ db) := by
  obtain ⟨_, hfetch⟩ := hc.ok hne
  rw [multiwalk_eq_loop lenient fuel hd hne hfetch]
  exact loop_complete fetch db _ hs hv hd hc lenient (fuel + 1) _ [] []
    (absCur_start _ ▸ WalkAbs.init_inv _ _) (WalkAbs.Fuel.init _ (by simpa using Nat.lt_succ_of_le hfuel)) rfl
    (fun vb hvb => nomatch hvb)

/-- **Completeness of a walk with a conformant fetcher** (GETNEXT or bulk): it ends normally, has
    yielded every database entry strictly below a root, and yields database entries only. -/
theorem walk_complete (fetch : Fetcher) (db : List VarBind) (roots : List Oid) (lenient : Bool) (fuel : Nat)
    (hs : WalkAbs.Sorted (db.map (·.1))) (hv : ∀ vb ∈ db, vb.2.isEom = false)
    (hpf : PrefixFree roots) (hne : roots ≠ []) (hc : ConformantFetch fetch db) (hfuel : db.length ≤ fuel) :
    let r := multiwalk fetch roots lenient fuel
    r.outcome = .done ∧
    (∀ vb ∈ db, (∃ root ∈ roots, root <+: vb.1 ∧ vb.1 ≠ root) → vb ∈ r.yields) ∧
    (∀ vb ∈ r.yields, vb ∈ db) := by
  have hsne : sortOids roots ≠ [] := fun h => hne (List.eq_nil_of_subset_nil fun a ha => h ▸ mem_sortOids.mpr ha)
  obtain ⟨h1, h2, h3⟩ := multiwalk_complete fetch db roots fuel hs hv (prefixFree_sorted roots hpf) hsne hc hfuel lenient
  refine ⟨h1, ?_, fun vb hvb => h3 vb (by rwa [← yields_eq])⟩
  intro vb hvb ⟨root, hroot, hpre, hneq⟩
  have hy := h2 root (mem_sortOids.mpr hroot) vb hvb hpre hneq
  rw [yieldOids_eq] at hy
  obtain ⟨vb', hvb', heq⟩ := List.mem_map.mp hy
  -- in a sorted database the OID determines the entry
  rw [yields_eq, ← keys_inj (pairwise_lt_nodup hs) vb' (h3 vb' hvb') vb hvb heq]
  exact hvb'

/-- what the walk needs to know about the agent: a GETBULK without non-repeaters is answered by at
    least one and at most `max-repetitions` repetitions of the conformant successor function,
    shortened ANYWHERE — even inside the first repetition (RFC 3416 4.2.3), as long as one binding
    is left ("however many repetitions the agent chooses to put into each response") -/
structure ConformantBulk (x : Exchange) (db : List VarBind) : Prop where
  resp : ∀ (m : Nat) (cs : List Oid), cs ≠ [] → 1 ≤ m →
    ∃ k L, 1 ≤ k ∧ k ≤ m ∧ 1 ≤ L ∧ x (.getbulk 0 m cs) = .ok ((rowsFlat db k cs).take L)

theorem bulkVarbinds_conformant (x : Exchange) (db : List VarBind) (hx : ConformantBulk x db) (size : Nat)
    (hsize : 1 ≤ size) (cs : List Oid) (hcs : cs ≠ []) :
    ∃ k L, 1 ≤ k ∧ k ≤ size ∧ 1 ≤ L ∧ bulkVarbinds x [] cs size = .ok ((rowsFlat db k cs).take L) := by
  obtain ⟨k, L, hk1, hkm, hL, hresp⟩ := hx.resp size cs hcs hsize
  refine ⟨k, L, hk1, hkm, hL, bulkVarbinds_ok_iff.mpr ⟨hresp, ?_⟩⟩
  rw [List.length_take, rowsFlat_length]
  exact Nat.le_trans (Nat.min_le_right _ _) (Nat.mul_le_mul_right _ hkm)

/-- the completion loop of the fetcher: a first repetition that was shortened by the agent is
    completed binding by binding until it is whole or shows an endOfMibView -/
theorem completeRow_conformant (x : Exchange) (db : List VarBind) (hx : ConformantBulk x db) (cs : List Oid) :
    ∀ (fuel Lc : Nat), 1 ≤ Lc → cs.length - Lc ≤ fuel →
      ∃ Lf, Lc ≤ Lf ∧ completeRow x cs fuel ((cs.map (nextE db)).take Lc) = .ok ((cs.map (nextE db)).take Lf) ∧
        (cs.length ≤ Lf ∨ ((cs.map (nextE db)).take Lf).all notEom = false) := by
  generalize hr : cs.map (nextE db) = row
  have hrl : row.length = cs.length := hr ▸ List.length_map _
  intro fuel
  induction fuel with
  | zero =>
    intro Lc _ hf
    exact ⟨Lc, Nat.le_refl _, rfl, Or.inl (Nat.le_of_sub_eq_zero (Nat.le_zero.mp hf))⟩
  | succ fuel ih =>
    intro Lc hLc hf
    by_cases hlt : Lc < cs.length
    · have hlen : (row.take Lc).length = Lc := List.length_take_of_le (hrl ▸ Nat.le_of_lt hlt)
      by_cases hall : (row.take Lc).all notEom = true
      · -- the columns still missing are asked for: at least one more binding of the repetition comes back
        obtain ⟨k', L', hk1, hk2, hL', hbv⟩ := bulkVarbinds_conformant x db hx 1 (Nat.le_refl 1) (cs.drop Lc)
          (List.ne_nil_of_length_pos (List.length_drop ▸ Nat.sub_pos_of_lt hlt))
        obtain rfl : k' = 1 := Nat.le_antisymm hk2 hk1
        rw [rowsFlat_one, List.map_drop, hr] at hbv
        have hne : ((row.drop Lc).take L').isEmpty = false := by
          rw [List.isEmpty_eq_false_iff, ← List.length_pos_iff, List.length_take, List.length_drop, hrl]
          exact Nat.lt_min.mpr ⟨hL', Nat.sub_pos_of_lt hlt⟩
        have hf' : cs.length - (Lc + L') ≤ fuel :=
          Nat.sub_add_eq _ _ _ ▸ Nat.sub_le_of_le_add (Nat.le_trans hf (Nat.add_le_add_left hL' fuel))
        obtain ⟨Lf, h1, h2, h3⟩ := ih (Lc + L') (Nat.le_add_right_of_le hLc) hf'
        refine ⟨Lf, Nat.le_trans (Nat.le_add_right _ _) h1, ?_, h3⟩
        rw [completeRow_step x cs fuel (hlen.symm ▸ hLc) (hlen.symm ▸ hlt) hall (hlen.symm ▸ hbv), hlen, hne,
          ← List.take_add]
        exact h2
      · exact ⟨Lc, Nat.le_refl _, completeRow_stop x cs _ _ (fun h => hall h.2.2), Or.inr ((Bool.not_eq_true _).mp hall)⟩
    · have hlen : (row.take Lc).length = cs.length := by
        rw [List.length_take, hrl, Nat.min_eq_right (Nat.le_of_not_lt hlt)]
      exact ⟨Lc, Nat.le_refl _, completeRow_stop x cs _ _ (fun h => Nat.lt_irrefl cs.length (hlen ▸ h.2.1)),
        Or.inl (Nat.le_of_not_lt hlt)⟩

theorem bulkFetcher_conformant (x : Exchange) (db : List VarBind) (hv : ∀ vb ∈ db, vb.2.isEom = false)
    (hx : ConformantBulk x db) (size : Nat) (hsize : 1 ≤ size) : ConformantFetch (bulkFetcher x size) db := by
  intro cs hcs
  obtain ⟨k, L, hk1, _, hL, hbv⟩ := bulkVarbinds_conformant x db hx size hsize cs hcs
  by_cases hfull : cs.length ≤ L
  · -- a whole repetition has come: nothing to complete
    have hlen : cs.length ≤ ((rowsFlat db k cs).take L).length := by
      rw [List.length_take, rowsFlat_length]
      exact Nat.le_min.mpr ⟨hfull, Nat.le_mul_of_pos_left _ hk1⟩
    exact ⟨k, L, hk1, Or.inl hfull, bulkFetcher_ok_iff.mpr ⟨_, _, hbv,
      completeRow_stop x cs _ _ (fun h => Nat.not_le_of_lt h.2.1 hlen), rfl, cc_conformant db hv k cs L⟩⟩
  · -- less than one repetition: the fetcher completes it
    have hfirst : (rowsFlat db k cs).take L = (cs.map (nextE db)).take L := by
      obtain ⟨k', rfl⟩ := Nat.exists_eq_add_one.mpr hk1
      rw [rowsFlat, List.take_append_of_le_length (by rw [List.length_map]; exact Nat.le_of_not_le hfull)]
    obtain ⟨Lf, _, hcomp, hend⟩ := completeRow_conformant x db hx cs cs.length L hL (Nat.sub_le _ _)
    refine ⟨1, Lf, Nat.le_refl 1, hend.imp_right fun h => ?_, bulkFetcher_ok_iff.mpr
      ⟨_, _, hbv, by rw [hfirst, hcomp, rowsFlat_one], rfl, cc_conformant db hv 1 cs Lf⟩⟩
    -- the endOfMibView that ended the completion answers a cursor without successor
    obtain ⟨a, ha, hna⟩ := List.all_eq_false.mp h
    obtain ⟨j, hj, rfl⟩ := List.mem_take_iff_getElem.mp ha
    rw [List.length_map, Nat.lt_min] at hj
    rw [List.getElem_map, Bool.not_eq_true] at hna
    exact ⟨j, hj.1, hj.2, nextOf_none_of_eom hv hna⟩

/-- `loop_complete` for the bulk fetcher -/
theorem loop_bulk (x : Exchange) (db : List VarBind) (roots : List Oid) (size : Nat) (hsize : 1 ≤ size)
    (hs : WalkAbs.Sorted (db.map (·.1))) (hv : ∀ vb ∈ db, vb.2.isEom = false)
    (hd : WalkAbs.Disjoint roots) (hx : ConformantBulk x db) (lenient : Bool) :
    ∀ (fuel : Nat) (unf : List (Oid × VarBind)) (yielded : List Oid) (ev : List Event),
      WalkAbs.Inv (db.map (·.1)) roots ⟨absCur unf, yielded⟩ →
      WalkAbs.Fuel (db.map (·.1)) fuel ⟨absCur unf, yielded⟩ →
      yieldOids ev = yielded → (∀ vb ∈ yieldsOf ev, vb ∈ db) →
      (loop (bulkFetcher x size) roots lenient fuel unf yielded ev).outcome = .done ∧
      (∀ r ∈ roots, ∀ e ∈ db, r <+: e.1 → e.1 ≠ r →
        e.1 ∈ yieldOids (loop (bulkFetcher x size) roots lenient fuel unf yielded ev).events) ∧
      (∀ vb ∈ yieldsOf (loop (bulkFetcher x size) roots lenient fuel unf yielded ev).events, vb ∈ db) :=
  loop_complete _ db roots hs hv hd (bulkFetcher_conformant x db hv hx size hsize) lenient

theorem bulkRows_conformant (db : List VarBind) (stop : Bool) :
    ∀ (N j : Nat) (cur : List Oid),
      ∃ k, (1 ≤ N → 1 ≤ k) ∧ k ≤ N ∧ (Agent.bulkRows (Agent.conformant db) stop N j cur).flatten = rowsFlat db k cur := by
  intro N
  induction N with
  | zero => exact fun _ _ => ⟨0, id, Nat.le_refl 0, rfl⟩
  | succ N ih =>
    intro j cur
    have hrow : cur.map (fun o => Agent.conformant db o j) = cur.map (nextE db) := rfl
    unfold Agent.bulkRows
    simp only [hrow]
    split
    · exact ⟨1, fun _ => Nat.le_refl 1, Nat.le_add_left 1 N, by rw [rowsFlat_one, List.flatten_cons, List.flatten_nil, List.append_nil]⟩
    · obtain ⟨k', _, h2, h3⟩ := ih (j + 1) ((cur.map (nextE db)).map (·.1))
      exact ⟨k' + 1, fun _ => Nat.le_add_left 1 k', Nat.succ_le_succ h2, by rw [List.flatten_cons, h3, rowsFlat]⟩

theorem bulkRows_head (a : AgentFn) (stop : Bool) (N j : Nat) (cur : List Oid) (hN : 1 ≤ N) :
    ∃ rest, Agent.bulkRows a stop N j cur = cur.map (a · j) :: rest := by
  obtain ⟨N, rfl⟩ := Nat.exists_eq_add_one.mpr hN
  unfold Agent.bulkRows
  simp only []
  split
  · exact ⟨[], rfl⟩
  · exact ⟨_, rfl⟩

/-- the number of repetitions `getbulkResp` lets the policy make of the `m` asked for -/
def maxRows (pol : BulkPolicy) (m : Nat) : Nat :=
  match pol.rows with
  | some r => min m (max 1 r)
  | none => m

/-- the policy's cut of the flattened repetitions, as `getbulkResp` makes it -/
def cutFlat (pol : BulkPolicy) (rows : List (List VarBind)) : List VarBind :=
  if pol.cut > 0 && pol.deep && !rows.flatten.isEmpty then
    rows.flatten.take (max 1 (rows.flatten.length - pol.cut))
  else if pol.cut > 0 && rows.length > 1 then
    rows.flatten.take (max rows.head!.length (rows.flatten.length - pol.cut))
  else rows.flatten

theorem getbulkResp_reps (a : AgentFn) (pol : BulkPolicy) (m : Nat) {cs : List Oid} (hcs : cs ≠ []) :
    Agent.getbulkResp a pol 0 m cs = cutFlat pol (Agent.bulkRows a pol.stopAfterEomRow (maxRows pol m) 0 cs) := by
  cases hr : pol.rows <;>
    simp only [Agent.getbulkResp, maxRows, cutFlat, Nat.zero_min, List.take_zero, List.map_nil, List.drop_zero,
      List.nil_append, List.isEmpty_eq_false_iff.mpr hcs, Bool.false_eq_true, ↓reduceIte, hr]

theorem maxRows_bounds (pol : BulkPolicy) {m : Nat} (hm : 1 ≤ m) : 1 ≤ maxRows pol m ∧ maxRows pol m ≤ m := by
  unfold maxRows
  split
  · exact ⟨Nat.le_min.mpr ⟨hm, Nat.le_max_left 1 _⟩, Nat.min_le_left _ _⟩
  · exact ⟨hm, Nat.le_refl m⟩

theorem cutFlat_take (pol : BulkPolicy) (row : List VarBind) (rest : List (List VarBind)) (hrow : 1 ≤ row.length) :
    ∃ L, 1 ≤ L ∧ cutFlat pol (row :: rest) = (row :: rest).flatten.take L := by
  unfold cutFlat
  split
  · exact ⟨_, Nat.le_max_left _ _, rfl⟩
  · split
    · exact ⟨_, Nat.le_trans hrow (Nat.le_max_left _ _), rfl⟩
    · exact ⟨_, Nat.le_trans hrow (List.length_append ▸ Nat.le_add_right _ _), (List.take_length).symm⟩

/-- whatever the truncation policy, the model agent answers a GETBULK without non-repeaters with a
    non-empty prefix of between one and max-repetitions repetitions -/
theorem getbulk_form (a : AgentFn) (pol : BulkPolicy) (m : Nat) (cs : List Oid) (hcs : cs ≠ []) (hm : 1 ≤ m) :
    ∃ N L, 1 ≤ N ∧ N ≤ m ∧ 1 ≤ L ∧
      Agent.getbulkResp a pol 0 m cs = (Agent.bulkRows a pol.stopAfterEomRow N 0 cs).flatten.take L := by
  obtain ⟨h1, h2⟩ := maxRows_bounds pol hm
  obtain ⟨rest, hrows⟩ := bulkRows_head a pol.stopAfterEomRow (maxRows pol m) 0 cs h1
  obtain ⟨L, hL, h⟩ := cutFlat_take pol _ rest (List.length_map (a · 0) ▸ List.length_pos_iff.mpr hcs)
  exact ⟨_, L, h1, h2, hL, by rw [getbulkResp_reps a pol m hcs, hrows, h]⟩

/-- the model's conformant agent under EVERY truncation policy: number of repetitions capped,
    trailing bindings cut — also into the first repetition (`deep`) —, with or without the early
    stop after an all-endOfMibView repetition -/
theorem exchange_conformantBulk (db : List VarBind) (pol : BulkPolicy) :
    ConformantBulk (exchangeOf (Agent.conformant db) db pol) db := by
  constructor
  intro m cs hcs hm
  obtain ⟨N, L, hN1, hNm, hL, hform⟩ := getbulk_form (Agent.conformant db) pol m cs hcs hm
  obtain ⟨k, hk1, hkN, hflat⟩ := bulkRows_conformant db pol.stopAfterEomRow N 0 cs
  exact ⟨k, L, hk1 hN1, Nat.le_trans hkN hNm, hL, by simp only [exchangeOf, hform, hflat]⟩

/-- database entries answering a GETNEXT on the requested OIDs, cut at the first endOfMibView -/
def fetchVb (db : List VarBind) : List Oid → List VarBind
  | [] => []
  | q :: qs => match Agent.nextOf db q with
    | none => []
    | some e => e :: fetchVb db qs

theorem fetchVb_eq (db : List VarBind) (hv : ∀ vb ∈ db, vb.2.isEom = false) (cs : List Oid) :
    fetchVb db cs = (cs.map (nextE db)).takeWhile notEom := by
  induction cs with
  | nil => rfl
  | cons q qs ih =>
    rw [fetchVb, List.map_cons]
    cases hq : Agent.nextOf db q with
    | none => simp [nextE_none hq, notEom, Val.isEom]
    | some e =>
      have : notEom e = true := by simp [notEom, hv e (nextOf_mem hq).1]
      simp only [nextE_some hq, List.takeWhile_cons, this, ↓reduceIte, ih]

theorem fetchVb_gt (db : List VarBind) : ∀ (qs : List Oid), ∀ p ∈ qs.zip (fetchVb db qs), p.1 < p.2.1
  | [], _, h => nomatch h
  | q :: qs, p, h => by
    rw [fetchVb] at h
    cases hq : Agent.nextOf db q with
    | none => rw [hq] at h; cases h
    | some e =>
      rw [hq, List.zip_cons_cons] at h
      rcases List.mem_cons.mp h with rfl | h
      · exact (nextOf_mem hq).2
      · exact fetchVb_gt db qs p h

theorem multigetnext_eq_fetchVb (db : List VarBind) (pol : BulkPolicy)
    (hv : ∀ vb ∈ db, vb.2.isEom = false) (oids : List Oid) :
    multigetnext (exchangeOf (Agent.conformant db) db pol) oids = .ok (fetchVb db oids) :=
  multigetnext_ok_iff.mpr ⟨_, rfl, List.length_map _, fetchVb_eq db hv oids, fetchVb_gt db oids⟩

section
variable (dbv : List VarBind) (pol : BulkPolicy)
/-- the fetcher of `Client.walk` / `multiwalk` against the conformant agent holding `dbv` -/
abbrev cfetch : Fetcher := multigetnext (exchangeOf (Agent.conformant dbv) dbv pol)
end

theorem cfetch_conformant (db : List VarBind) (pol : BulkPolicy) (hv : ∀ vb ∈ db, vb.2.isEom = false) :
    ConformantFetch (cfetch db pol) db := by
  intro cs _
  refine ⟨1, cs.length, Nat.le_refl _, Or.inl (Nat.le_refl _), ?_⟩
  rw [show cfetch db pol cs = .ok (fetchVb db cs) from multigetnext_eq_fetchVb db pol hv cs, fetchVb_eq db hv]
  rw [rowsFlat_one, List.take_of_length_le (by simp)]

end Snmp.Walk
