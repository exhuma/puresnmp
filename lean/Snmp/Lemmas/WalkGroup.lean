/-
  What `multiwalk` makes of one response, pairwise disjoint roots: `group_varbinds` regroups it
  into one column per live root (`cols`), `get_unfinished_walk_oids` keeps the last binding of
  every column still inside its root, `deduped_varbinds` appends what is new.  With the facts
  about OID order and subtrees these rest on.
-/
import Snmp.Model.Walk
import Snmp.Lemmas.WalkInv
namespace Snmp.Walk
open Snmp

theorem oidLe_iff (a b : Oid) : oidLe a b = true ↔ a ≤ b := by
  unfold oidLe
  simp

theorem oidLe_trans (a b c : Oid) (h1 : oidLe a b = true) (h2 : oidLe b c = true) : oidLe a c = true := by
  rw [oidLe_iff] at *
  exact List.le_trans h1 h2

theorem oidLe_total (a b : Oid) : (oidLe a b || oidLe b a) = true := by
  rcases List.le_total a b with h | h
  · simp [(oidLe_iff a b).mpr h]
  · simp [(oidLe_iff b a).mpr h]

theorem oidLe_antisymm (a b : Oid) (h1 : oidLe a b = true) (h2 : oidLe b a = true) : a = b := by
  rw [oidLe_iff] at *
  exact List.le_antisymm h1 h2

theorem sortOids_perm (l l' : List Oid) (h : l'.Perm l) : sortOids l' = sortOids l := by
  apply List.Perm.eq_of_pairwise (le := fun a b => oidLe a b = true)
  · intro a b _ _ hab hba; exact oidLe_antisymm a b hab hba
  · exact List.pairwise_mergeSort oidLe_trans oidLe_total l'
  · exact List.pairwise_mergeSort oidLe_trans oidLe_total l
  · exact ((List.mergeSort_perm l' oidLe).trans h).trans (List.mergeSort_perm l oidLe).symm

theorem mem_sortOids {roots : List Oid} {r : Oid} : r ∈ sortOids roots ↔ r ∈ roots :=
  (List.mergeSort_perm roots oidLe).mem_iff

theorem pairwise_lt_nodup {l : List Oid} (h : l.Pairwise (· < ·)) : l.Nodup :=
  h.imp Std.ne_of_lt

theorem disjoint_lt {roots : List Oid} (hd : WalkAbs.Disjoint roots) : roots.Pairwise (· < ·) :=
  hd.imp (fun h => h.1)

theorem keys_inj {α β} {l : List (α × β)} (h : (l.map (·.1)).Nodup) :
    ∀ p ∈ l, ∀ q ∈ l, p.1 = q.1 → p = q := by
  have h' := List.pairwise_map.mp h
  exact fun p hp q hq => List.Pairwise.forall_of_forall_of_flip (R := fun p q => p.1 = q.1 → p = q)
    (fun _ _ _ => rfl) (h'.imp fun hne e => absurd e hne) (h'.imp fun hne e => absurd e.symm hne) hp hq

theorem not_both_prefix {r k c : Oid} (hlt : r < k) (hnp : ¬ r <+: k) (hr : r <+: c) (hk : k <+: c) : False := by
  rcases Nat.le_total r.length k.length with h | h
  · exact hnp (List.prefix_of_prefix_length_le hr hk h)
  · have := (List.prefix_of_prefix_length_le hk hr h).le
    exact absurd hlt (List.not_lt.mpr this)

theorem filter_root_unique (roots : List Oid) (k c : Oid) (hd : WalkAbs.Disjoint roots) (hk : k ∈ roots)
    (hkc : k <+: c) : roots.filter (fun b => inside b c) = [k] := by
  induction roots with
  | nil => cases hk
  | cons r rs ih =>
    have hd' := List.pairwise_cons.mp hd
    rcases List.mem_cons.mp hk with rfl | hk'
    · rw [List.filter_cons, if_pos ((inside_iff k c).mpr hkc), List.filter_eq_nil_iff.mpr]
      intro b hb hbc
      have := hd'.1 b hb
      exact not_both_prefix this.1 this.2 hkc ((inside_iff b c).mp hbc)
    · rw [List.filter_cons, if_neg, ih hd'.2 hk']
      intro hrc
      have := hd'.1 k hk'
      exact not_both_prefix this.1 this.2 ((inside_iff r c).mp hrc) hkc

theorem root_unique {roots : List Oid} (hd : WalkAbs.Disjoint roots) {a b o : Oid}
    (ha : a ∈ roots) (hb : b ∈ roots) (hao : a <+: o) (hbo : b <+: o) : a = b :=
  List.singleton_inj.mp ((filter_root_unique roots a o hd ha hao).symm.trans (filter_root_unique roots b o hd hb hbo))

/-- the cursors `multiwalk` keeps: some of the roots, in root order, each with a binding inside it -/
structure Placed (roots : List Oid) (unf : List (Oid × VarBind)) : Prop where
  sub : (unf.map (·.1)).Sublist roots
  ins : ∀ p ∈ unf, p.1 <+: p.2.1

theorem Placed.cursors_lt {roots : List Oid} (hd : WalkAbs.Disjoint roots) {unf : List (Oid × VarBind)}
    (hp : Placed roots unf) : (unf.map (·.2.1)).Pairwise (· < ·) :=
  WalkAbs.cursors_lt hd hp.sub hp.ins

theorem Placed.keys_lt {roots : List Oid} (hd : WalkAbs.Disjoint roots) {unf : List (Oid × VarBind)}
    (hp : Placed roots unf) : (unf.map (·.1)).Pairwise (· < ·) :=
  (disjoint_lt hd).sublist hp.sub

/-- pairwise disjoint subtrees, in any listing order -/
def PrefixFree (roots : List Oid) : Prop := roots.Pairwise (fun a b => ¬ a <+: b ∧ ¬ b <+: a)

theorem prefixFree_sorted (roots : List Oid) (h : PrefixFree roots) : WalkAbs.Disjoint (sortOids roots) := by
  have hperm := List.mergeSort_perm roots oidLe
  have hpf : (sortOids roots).Pairwise (fun a b => ¬ a <+: b ∧ ¬ b <+: a) :=
    (hperm.pairwise_iff (fun {x y} h => ⟨h.2, h.1⟩)).mpr h
  have hle : (sortOids roots).Pairwise (fun a b => oidLe a b = true) :=
    List.pairwise_mergeSort oidLe_trans oidLe_total roots
  refine (hpf.and hle).imp fun {a b} hab => ⟨?_, hab.1.1⟩
  exact Std.lt_of_le_of_ne ((oidLe_iff a b).mp hab.2) fun heq => hab.1.1 (heq ▸ List.prefix_refl a)

theorem dictSet_fresh {κ ν} [BEq κ] [LawfulBEq κ] (d : List (κ × ν)) (k : κ) (v : ν)
    (h : ∀ q ∈ d, q.1 ≠ k) : Py.dictSet d k v = d ++ [(k, v)] :=
  if_neg fun ha => by
    obtain ⟨q, hq, hk⟩ := List.any_eq_true.mp ha
    exact h q hq (eq_of_beq hk)

theorem foldl_dictSet_fresh {κ ν} [BEq κ] [LawfulBEq κ] (ps acc : List (κ × ν))
    (hnd : (ps.map (·.1)).Nodup) (hfr : ∀ p ∈ ps, ∀ q ∈ acc, q.1 ≠ p.1) :
    ps.foldl (fun d p => Py.dictSet d p.1 p.2) acc = acc ++ ps := by
  induction ps generalizing acc with
  | nil => exact (List.append_nil acc).symm
  | cons p ps ih =>
    have hnd := List.nodup_cons.mp hnd
    rw [List.foldl_cons, dictSet_fresh acc p.1 p.2 (hfr p List.mem_cons_self), ih _ hnd.2, List.append_assoc]
    · rfl
    · intro q hq r hr
      rcases List.mem_append.mp hr with h | h
      · exact hfr q (List.mem_cons_of_mem _ hq) r h
      · rw [List.mem_singleton.mp h]
        exact fun heq => hnd.1 (List.mem_map.mpr ⟨q, hq, heq.symm⟩)

theorem range_map_getD (l : List Oid) : (List.range l.length).map (fun i => l.getD i []) = l :=
  List.ext_getElem (by rw [List.length_map, List.length_range]) fun i _ h => by
    rw [List.getElem_map, List.getElem_range, List.getD_eq_getElem?_getD, List.getElem?_eq_getElem h]; rfl

/-- the second half of `group_varbinds`, the mapping of the requested (effective) OIDs back to the
    user's roots, when every key lies inside exactly one user root: one assignment per group -/
theorem go_foldl (user : List Oid) (rootOf : Oid → Oid) (rest acc : Groups) (hit : Bool)
    (hf : ∀ p ∈ rest, user.filter (fun base => inside base p.1) = [rootOf p.1]) :
    groupVarbinds.go user rest acc hit =
      .ok ((rest.map fun p => (rootOf p.1, p.2)).foldl (fun d p => Py.dictSet d p.1 p.2) acc, hit || !rest.isEmpty) := by
  induction rest generalizing acc hit with
  | nil => simp [groupVarbinds.go, pure, Except.pure]
  | cons p rest ih =>
    unfold groupVarbinds.go
    simp only [hf p List.mem_cons_self, List.length_singleton, Nat.lt_irrefl, ↓reduceIte]
    rw [ih _ true fun q hq => hf q (List.mem_cons_of_mem _ hq)]
    simp

/-- one group per root: the bindings at positions `i, i+n, i+2n, …` -/
def cols (ks : List Oid) (vbs : List VarBind) : Groups :=
  (List.range ks.length).map (fun i => (ks.getD i [], Py.stride vbs i ks.length))

theorem cols_keys (ks : List Oid) (vbs : List VarBind) : (cols ks vbs).map (·.1) = ks := by
  unfold cols
  rw [List.map_map]
  exact range_map_getD ks

theorem cols_mem {unf : List (Oid × VarBind)} {vbs : List VarBind} {grp : Oid × List VarBind} :
    grp ∈ cols (unf.map (·.1)) vbs ↔
      ∃ i, ∃ hi : i < unf.length, grp = ((unf[i]).1, Py.stride vbs i unf.length) := by
  unfold cols
  simp only [List.mem_map, List.mem_range, List.length_map]
  constructor
  · rintro ⟨i, hi, rfl⟩; exact ⟨i, hi, by simp [hi]⟩
  · rintro ⟨i, hi, rfl⟩; exact ⟨i, hi, by simp [hi]⟩

theorem foldl_cols (vbs : List VarBind) {ks : List Oid} (h : ks.Nodup) :
    (cols ks vbs).foldl (fun d p => Py.dictSet d p.1 p.2) [] = cols ks vbs :=
  foldl_dictSet_fresh _ [] (by rw [cols_keys]; exact h) fun _ _ _ hq => nomatch hq

theorem results_eq_cols (vbs : List VarBind) {cs : List Oid} (hcs : cs.Nodup) :
    (List.range cs.length).foldl (fun d i => Py.dictSet d (cs.getD i []) (Py.stride vbs i cs.length)) [] = cols cs vbs :=
  (List.foldl_map ..).symm.trans (foldl_cols vbs hcs)

theorem cols_map_keys (f : Oid → Oid) (cs : List Oid) (vbs : List VarBind) :
    (cols cs vbs).map (fun p => (f p.1, p.2)) = cols (cs.map f) vbs := by
  unfold cols
  rw [List.map_map, List.length_map]
  refine List.map_congr_left fun i hi => ?_
  have hi' : i < cs.length := List.mem_range.mp hi
  simp [hi']

/-- `group_varbinds` when every requested OID `c` lies in exactly one user root `rootOf c`, and the requested OIDs
    as well as their roots are pairwise different: one group per root, holding the bindings at its positions -/
theorem groupVarbinds_cols (vbs : List VarBind) (cs ks roots : List Oid) (rootOf : Oid → Oid)
    (hne : cs ≠ []) (hroots : roots ≠ []) (hcs : cs.Nodup)
    (hks : cs.map rootOf = ks) (hknd : ks.Nodup)
    (hf : ∀ c ∈ cs, roots.filter (fun base => inside base c) = [rootOf c]) :
    groupVarbinds vbs cs roots = .ok (cols ks vbs) := by
  have hnonempty : (cols cs vbs).isEmpty = false := by
    rw [List.isEmpty_eq_false_iff]
    exact fun h => hne (by rw [← cols_keys cs vbs, h]; rfl)
  unfold groupVarbinds
  simp only [bind, Except.bind, List.isEmpty_eq_false_iff.mpr hroots, Bool.false_eq_true, ↓reduceIte, pure, Except.pure, results_eq_cols vbs hcs]
  rw [go_foldl roots rootOf (cols cs vbs) [] false fun p hp => hf p.1 (cols_keys cs vbs ▸ List.mem_map_of_mem hp),
    cols_map_keys, hks, foldl_cols vbs hknd]
  simp only [hnonempty, Bool.not_false, Bool.or_true, ↓reduceIte]

theorem groupVarbinds_first (vbs : List VarBind) (roots : List Oid) (hnd : roots.Nodup) :
    groupVarbinds vbs roots [] = .ok (cols roots vbs) := by
  unfold groupVarbinds
  simp only [List.isEmpty_nil, ↓reduceIte, pure, Except.pure, results_eq_cols vbs hnd]

theorem group_cursors {roots : List Oid} (hd : WalkAbs.Disjoint roots) {unf : List (Oid × VarBind)}
    (hp : Placed roots unf) (hne : unf ≠ []) (vbs : List VarBind) :
    groupVarbinds vbs (unf.map (·.2.1)) roots = .ok (cols (unf.map (·.1)) vbs) := by
  have hroots : roots ≠ [] := by
    intro h; subst h
    exact hne (List.map_eq_nil_iff.mp (List.sublist_nil.mp hp.sub))
  have hfil : ∀ p ∈ unf, roots.filter (fun b => inside b p.2.1) = [p.1] := fun p hp' =>
    filter_root_unique roots p.1 p.2.1 hd (hp.sub.subset (List.mem_map_of_mem hp')) (hp.ins p hp')
  -- the root of a cursor: the one requested root it lies in
  let rootOf : Oid → Oid := fun c => (roots.filter (fun b => inside b c)).headD []
  have hroot : ∀ p ∈ unf, rootOf p.2.1 = p.1 := fun p hp' => congrArg (·.headD []) (hfil p hp')
  exact groupVarbinds_cols vbs _ _ roots rootOf (by simpa using hne) hroots
    (pairwise_lt_nodup (hp.cursors_lt hd))
    (by rw [List.map_map]; exact List.map_congr_left hroot)
    (pairwise_lt_nodup (hp.keys_lt hd))
    (fun c hc => by obtain ⟨p, hp', rfl⟩ := List.mem_map.mp hc; rw [hroot p hp', hfil p hp'])

/-- what `get_unfinished_walk_oids` keeps of one group before its `inside` test: the root with the
    last binding of its column, nothing for an empty column -/
def lastOf (kv : Oid × List VarBind) : Option (Oid × VarBind) := kv.2.getLast?.map fun l => (kv.1, l)

theorem lastOf_some {kv : Oid × List VarBind} {p : Oid × VarBind} (h : lastOf kv = some p) :
    p.1 = kv.1 ∧ kv.2.getLast? = some p.2 := by
  obtain ⟨l, hl, rfl⟩ := Option.map_eq_some_iff.mp h
  exact ⟨rfl, hl⟩

theorem lastOf_keys_sublist (g : Groups) : ((g.filterMap lastOf).map (·.1)).Sublist (g.map (·.1)) := by
  induction g with
  | nil => exact List.Sublist.refl _
  | cons kv g ih =>
    rw [List.filterMap_cons, List.map_cons]
    cases h : lastOf kv with
    | none => exact ih.cons _
    | some p =>
      rw [List.map_cons, (lastOf_some h).1]
      exact ih.cons_cons _

/-- what `get_unfinished_walk_oids` returns on groups whose keys ascend (`unfinished_sorted`): for
    every non-empty column whose last binding is still inside its root, the root with that binding -/
def live (g : Groups) : List (Oid × VarBind) := (g.filterMap lastOf).filter (fun kl => inside kl.1 kl.2.1)

theorem mem_live {g : Groups} {p : Oid × VarBind} :
    p ∈ live g ↔ p.1 <+: p.2.1 ∧ ∃ col, (p.1, col) ∈ g ∧ col.getLast? = some p.2 := by
  constructor
  · intro h
    obtain ⟨grp, hg, hl⟩ := List.mem_filterMap.mp (List.mem_filter.mp h).1
    exact ⟨(inside_iff _ _).mp (List.mem_filter.mp h).2, grp.2, by rw [(lastOf_some hl).1]; exact hg, (lastOf_some hl).2⟩
  · rintro ⟨hin, col, hg, hl⟩
    exact List.mem_filter.mpr ⟨List.mem_filterMap.mpr ⟨_, hg, by simp [lastOf, hl]⟩, (inside_iff _ _).mpr hin⟩

theorem unfinished_sorted (g : Groups) (hs : (g.map (·.1)).Pairwise (· < ·)) : unfinished g = live g := by
  show (List.filter _ ((g.filterMap lastOf).mergeSort _)) = _
  rw [List.mergeSort_of_pairwise]; rfl
  have h1 : ((g.filterMap lastOf).map (·.1)).Pairwise (· < ·) := hs.sublist (lastOf_keys_sublist g)
  rw [List.pairwise_map] at h1
  apply h1.imp
  intro a b hab
  rw [oidLe_iff]
  exact List.le_of_lt hab

theorem unfinished_cols {ks : List Oid} (hs : ks.Pairwise (· < ·)) (vbs : List VarBind) :
    unfinished (cols ks vbs) = live (cols ks vbs) :=
  unfinished_sorted _ (by rw [cols_keys]; exact hs)

theorem Placed.next {roots : List Oid} {unf : List (Oid × VarBind)} (hp : Placed roots unf) (vbs : List VarBind) :
    Placed roots (live (cols (unf.map (·.1)) vbs)) :=
  ⟨((List.filter_sublist.map _).trans (lastOf_keys_sublist _)).trans (by rw [cols_keys]; exact hp.sub),
   fun _ h => (mem_live.mp h).1⟩

/-- **What `deduped_varbinds` does to its accumulator**, in one statement (`keep vb`: `vb` lies inside
    a root): it appends a sublist `new` of the bindings, each kept and not yielded before, without
    repeating an OID, and leaves out no kept binding whose OID is not accounted for. -/
theorem dedupFold_spec (keep : VarBind → Bool) (L : List VarBind) (acc : List VarBind × List Oid) :
    let r := L.foldl (fun (acc : List VarBind × List Oid) vb =>
      if keep vb && !acc.2.contains vb.1 then (acc.1 ++ [vb], acc.2 ++ [vb.1]) else acc) acc
    ∃ new : List VarBind, r = (acc.1 ++ new, acc.2 ++ new.map (·.1)) ∧ new.Sublist L ∧
      (∀ v ∈ new, keep v = true ∧ v.1 ∉ acc.2) ∧ (new.map (·.1)).Nodup ∧
      (∀ v ∈ L, keep v = true → v.1 ∈ acc.2 ++ new.map (·.1)) := by
  induction L generalizing acc with
  | nil => exact ⟨[], Prod.ext (List.append_nil _).symm (List.append_nil _).symm, List.Sublist.refl _,
      (fun _ h => nomatch h), List.nodup_nil, (fun _ h => nomatch h)⟩
  | cons v L ih =>
    have hif : (keep v && !acc.2.contains v.1) = true ↔ keep v = true ∧ v.1 ∉ acc.2 := by simp
    rw [List.foldl_cons]
    by_cases hcond : keep v = true ∧ v.1 ∉ acc.2
    · rw [if_pos (hif.mpr hcond)]
      obtain ⟨new, h1, h2, h3, h4, h5⟩ := ih (acc.1 ++ [v], acc.2 ++ [v.1])
      have hv : v.1 ∉ new.map (·.1) := fun hm => by
        obtain ⟨w, hw, hwv⟩ := List.mem_map.mp hm
        exact (h3 w hw).2 (hwv ▸ List.mem_append_right _ (List.mem_singleton_self _))
      refine ⟨v :: new, by rw [h1, List.append_assoc, List.append_assoc]; rfl, h2.cons_cons _, ?_, List.nodup_cons.mpr ⟨hv, h4⟩, fun w hw hwin => ?_⟩
      · intro w hw
        rcases List.mem_cons.mp hw with rfl | hw
        · exact hcond
        · exact ⟨(h3 w hw).1, fun h => (h3 w hw).2 (List.mem_append_left _ h)⟩
      · rcases List.mem_cons.mp hw with rfl | hw
        · exact List.mem_append_right _ List.mem_cons_self
        · have := h5 w hw hwin
          rwa [List.append_assoc] at this
    · rw [if_neg (mt hif.mp hcond)]
      obtain ⟨new, h1, h2, h3, h4, h5⟩ := ih acc
      refine ⟨new, h1, h2.cons _, h3, h4, fun w hw hwin => ?_⟩
      rcases List.mem_cons.mp hw with rfl | hw
      · exact List.mem_append_left _ (Decidable.byContradiction fun h => hcond ⟨hwin, h⟩)
      · exact h5 w hw hwin

theorem deduped_spec (roots : List Oid) (g : Groups) (yielded : List Oid) :
    ∃ new : List VarBind, deduped roots g yielded = (new, yielded ++ new.map (·.1)) ∧
      (∀ v ∈ new, ∃ grp ∈ g, v ∈ grp.2) ∧
      (∀ v ∈ new, roots.any (fun r => inside r v.1) = true ∧ v.1 ∉ yielded) ∧ (new.map (·.1)).Nodup ∧
      (∀ grp ∈ g, ∀ v ∈ grp.2, roots.any (fun r => inside r v.1) = true → v.1 ∈ yielded ++ new.map (·.1)) := by
  have hflat : ∀ vb, vb ∈ ((g.map (·.2)).mergeSort groupLe).flatten ↔ ∃ grp ∈ g, vb ∈ grp.2 := by
    intro vb
    simp only [List.mem_flatten, List.mem_mergeSort, List.mem_map]
    exact ⟨fun ⟨_, ⟨grp, hg, e⟩, hvb⟩ => ⟨grp, hg, e ▸ hvb⟩, fun ⟨grp, hg, hvb⟩ => ⟨_, ⟨grp, hg, rfl⟩, hvb⟩⟩
  obtain ⟨new, h1, h2, h3, h4, h5⟩ := dedupFold_spec (fun vb => roots.any fun r => inside r vb.1) ((g.map (·.2)).mergeSort groupLe).flatten ([], yielded)
  refine ⟨new, h1.trans (by rw [List.nil_append]), fun v hv => (hflat v).mp (h2.subset hv), h3, h4, ?_⟩
  exact fun grp hg v hv => h5 v ((hflat v).mpr ⟨grp, hg, hv⟩)

/-- what `deduped_varbinds` adds to the `yielded` set, and that it yields bindings of the groups only -/
theorem deduped_mem (roots : List Oid) (g : Groups) (yielded : List Oid) (o : Oid) :
    (o ∈ (deduped roots g yielded).2 ↔
      o ∈ yielded ∨ (roots.any (fun r => inside r o) = true ∧ ∃ grp ∈ g, ∃ vb ∈ grp.2, vb.1 = o)) ∧
    (∀ vb ∈ (deduped roots g yielded).1, ∃ grp ∈ g, vb ∈ grp.2) := by
  obtain ⟨new, h, h2, h3, _, h5⟩ := deduped_spec roots g yielded
  rw [h]
  refine ⟨⟨fun ho => ?_, fun ho => ?_⟩, h2⟩
  · rcases List.mem_append.mp ho with h | h
    · exact Or.inl h
    · obtain ⟨v, hv, rfl⟩ := List.mem_map.mp h
      obtain ⟨grp, hg, hm⟩ := h2 v hv
      exact Or.inr ⟨(h3 v hv).1, grp, hg, v, hm, rfl⟩
  · rcases ho with h | ⟨ha, grp, hg, vb, hm, rfl⟩
    · exact List.mem_append_left _ h
    · exact h5 grp hg vb hm ha

end Snmp.Walk
