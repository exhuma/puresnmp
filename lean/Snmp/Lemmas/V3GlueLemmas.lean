/-
  `Snmp.V3Glue` on what a conformant agent writes: an SNMPv3 message in any admissible definite
  length forms is taken apart into exactly the fields that were written.  The layout `v3wire` only
  comes in to say which nodes `Message.decode` finds (`wire_nodes`: each is the node of the TLV
  written, `NodeOf`); what the model makes of such a node is said once per kind (`NodeOf.octets`,
  `.int`, `.forced`).
-/
import Snmp.Model.V3Glue
import Snmp.Lemmas.SeqItems
import Snmp.Lemmas.RawDigestLemmas
namespace Snmp.V3Glue
open Snmp Snmp.Ber

/-- an INTEGER / OCTET STRING / SEQUENCE written in form `f` -/
def tInt (f : LenForm) (c : Bytes) : RawTlv := ⟨f, 2, c⟩
def tStr (f : LenForm) (c : Bytes) : RawTlv := ⟨f, 4, c⟩
def tSeq (f : LenForm) (c : Bytes) : RawTlv := ⟨f, 48, c⟩

section
variable {f : LenForm} {c : Bytes} (hf : f.ok c.length)
include hf
theorem tInt_ok : (tInt f c).ok := ⟨hf, (by decide : 2 ≠ 255), ctor_of_not_pdu 2 (by rw [lookup_int]; decide)⟩
theorem tStr_ok : (tStr f c).ok := ⟨hf, (by decide : 4 ≠ 255), ctor_of_not_pdu 4 (by rw [lookup_str]; decide)⟩
theorem tSeq_ok : (tSeq f c).ok := ⟨hf, (by decide : 48 ≠ 255), ctor_of_not_pdu 48 (by rw [lookup_seq]; decide)⟩
end

theorem isInstance_seq : UsmParams.isInstance (lookup 48).name "Sequence" = true := by rw [lookup_seq]; decide

variable {data : Bytes} {i fuel : Nat}

theorem items_at {f : LenForm} {xs : List RawTlv} (oks : ∀ y ∈ xs, y.ok) (hat : At data i (Spec.tlv f 48 (rawBytes xs)))
    (fuel : Nat) (hf : xs.length ≤ fuel + 1) :
    items data (nodeAtLen f 48 (rawBytes xs) i) fuel = .ok (rawNodes (i + 1 + (specLength f (rawBytes xs).length).length) xs) := by
  simp [items, lookup_seq, seqItems_node xs oks hat fuel hf]

/-- `n` is the node of a TLV with identifier octet `t` and content `c` found somewhere in the datagram: all that the
    glue looks at is the class registered for `t` and the content octets -/
structure NodeOf (data : Bytes) (n : Node) (t : Nat) (c : Bytes) : Prop where
  entry : n.entry = lookup t
  content : n.content data = c

theorem _root_.Snmp.Ber.At.nodeOf {f : LenForm} {t : Nat} {c : Bytes} (h : At data i (Spec.tlv f t c)) :
    NodeOf data (nodeAtLen f t c i) t c := ⟨nodeAtLen_entry f t c i, nodeAtLen_content_at h⟩

section
variable {n : Node} {c : Bytes}

theorem NodeOf.octets (h : NodeOf data n 4 c) : octetsOf data n = some c := by
  rw [octetsOf, h.entry, lookup_str, h.content]
  simp [Gen.bytesValued]

theorem NodeOf.int (h : NodeOf data n 2 c) : intOf data n = intDecode true c := by
  rw [intOf, h.entry, lookup_int, h.content]
  rfl

theorem NodeOf.forced (h : NodeOf data n 2 c) (fuel : Nat) : forced data n fuel = .ok () := by
  rw [V3Glue.forced, readNode]
  simp [h.entry, lookup_int]

end

/-- the length forms of the six fields of a USM parameter block -/
structure ParamForms where
  fe : LenForm
  fb : LenForm
  ft : LenForm
  fu : LenForm
  fa : LenForm
  fp : LenForm

def paramItems (F : ParamForms) (p : UsmParams.Params) (boots time : Bytes) : List RawTlv :=
  [tStr F.fe p.engineId, tInt F.fb boots, tInt F.ft time, tStr F.fu p.user, tStr F.fa p.auth, tStr F.fp p.priv]

def ParamForms.ok (F : ParamForms) (p : UsmParams.Params) (boots time : Bytes) : Prop :=
  F.fe.ok p.engineId.length ∧ F.fb.ok boots.length ∧ F.ft.ok time.length ∧ F.fu.ok p.user.length ∧
  F.fa.ok p.auth.length ∧ F.fp.ok p.priv.length

theorem paramItems_ok {F : ParamForms} {p : UsmParams.Params} {boots time : Bytes} (hF : F.ok p boots time) :
    ∀ y ∈ paramItems F p boots time, y.ok := by
  simp only [paramItems, List.forall_mem_cons]
  exact ⟨tStr_ok hF.1, tInt_ok hF.2.1, tInt_ok hF.2.2.1, tStr_ok hF.2.2.2.1, tStr_ok hF.2.2.2.2.1, tStr_ok hF.2.2.2.2.2, List.forall_mem_nil _⟩

theorem params_wire (f : LenForm) (F : ParamForms) (p : UsmParams.Params) (boots time : Bytes)
    (hF : F.ok p boots time) (hf : f.ok (rawBytes (paramItems F p boots time)).length)
    (hb : p.boots = intDecode true boots) (ht : p.time = intDecode true time) (fuel : Nat) (hfuel : 5 ≤ fuel) :
    UsmParams.ofBytes (Spec.tlv f 48 (rawBytes (paramItems F p boots time))) fuel = .ok p := by
  have T0 := At.self (Spec.tlv f 48 (rawBytes (paramItems F p boots time)))
  have R := T0.content.run
  unfold UsmParams.ofBytes
  rw [decodeAt_at T0 (tSeq_ok hf)]
  simp only [UsmParams.lift, nodeAtLen, isInstance_seq, Bool.not_true, Bool.false_eq_true, ↓reduceIte]
  rw [seqItems_at _ (paramItems_ok hF) T0.content fuel (Nat.succ_le_succ hfuel)]
  simp only [paramItems, rawNodes, RunAt, tStr, tInt] at R ⊢
  obtain ⟨Te, Tb, Tt, Tu, Ta, Tp, -⟩ := R
  -- the six nodes: the classes are the expected ones, the contents those written
  simp [Gen.usmParamClasses, UsmParams.classOk, Gen.usmParamExact, lookup_int, lookup_str, UsmParams.octets, UsmParams.integer,
    nodeAtLen_content_at Te, nodeAtLen_content_at Tb, nodeAtLen_content_at Tt, nodeAtLen_content_at Tu, nodeAtLen_content_at Ta,
    nodeAtLen_content_at Tp, ← hb, ← ht]

structure MsgForms where
  f0 : LenForm   -- message
  fv : LenForm   -- msgVersion
  fh : LenForm   -- msgGlobalData
  fm : LenForm
  fs : LenForm
  fl : LenForm
  fo : LenForm
  fsp : LenForm  -- msgSecurityParameters (the OCTET STRING)
  fsi : LenForm  -- … and the SEQUENCE inside

/-- contents of msgVersion and of the four header fields -/
structure HdrC where
  ver : Bytes
  mid : Bytes
  mms : Bytes
  flg : Bytes
  mdl : Bytes

def hdrItems (G : MsgForms) (h : HdrC) : List RawTlv :=
  [tInt G.fm h.mid, tInt G.fs h.mms, tStr G.fl h.flg, tInt G.fo h.mdl]

def spBlock (G : MsgForms) (F : ParamForms) (p : UsmParams.Params) (boots time : Bytes) : Bytes :=
  Spec.tlv G.fsi 48 (rawBytes (paramItems F p boots time))

def msgItems (G : MsgForms) (F : ParamForms) (h : HdrC) (p : UsmParams.Params) (boots time : Bytes) (pl : RawTlv) : List RawTlv :=
  [tInt G.fv h.ver, tSeq G.fh (rawBytes (hdrItems G h)), tStr G.fsp (spBlock G F p boots time), pl]

def v3wire (G : MsgForms) (F : ParamForms) (h : HdrC) (p : UsmParams.Params) (boots time : Bytes) (pl : RawTlv) (trailing : Bytes) : Bytes :=
  Spec.tlv G.f0 48 (rawBytes (msgItems G F h p boots time pl)) ++ trailing

def MsgForms.ok (G : MsgForms) (F : ParamForms) (h : HdrC) (p : UsmParams.Params) (boots time : Bytes) (pl : RawTlv) : Prop :=
  G.f0.ok (rawBytes (msgItems G F h p boots time pl)).length ∧ G.fv.ok h.ver.length ∧
  G.fh.ok (rawBytes (hdrItems G h)).length ∧ G.fm.ok h.mid.length ∧ G.fs.ok h.mms.length ∧ G.fl.ok h.flg.length ∧
  G.fo.ok h.mdl.length ∧ G.fsp.ok (spBlock G F p boots time).length ∧
  G.fsi.ok (rawBytes (paramItems F p boots time)).length ∧ pl.ok

variable {G : MsgForms} {F : ParamForms} {h : HdrC} {p : UsmParams.Params} {boots time : Bytes} {pl : RawTlv}

section
variable (hok : G.ok F h p boots time pl)
include hok

theorem MsgForms.ok.inner : G.fsi.ok (rawBytes (paramItems F p boots time)).length := hok.2.2.2.2.2.2.2.2.1

theorem hdrItems_ok : ∀ y ∈ hdrItems G h, y.ok := by
  obtain ⟨-, -, -, hm, hs, hl, ho, -⟩ := hok
  simp only [hdrItems, List.forall_mem_cons]
  exact ⟨tInt_ok hm, tInt_ok hs, tStr_ok hl, tInt_ok ho, List.forall_mem_nil _⟩

theorem msgItems_ok : ∀ y ∈ msgItems G F h p boots time pl, y.ok := by
  obtain ⟨-, hv, hh, -, -, -, -, hsp, -, hpl⟩ := hok
  simp only [msgItems, List.forall_mem_cons]
  exact ⟨tInt_ok hv, tSeq_ok hh, tStr_ok hsp, hpl, List.forall_mem_nil _⟩

end

/-- the node of msgData in the datagram -/
def plNode (G : MsgForms) (F : ParamForms) (h : HdrC) (p : UsmParams.Params) (boots time : Bytes) (pl : RawTlv) : Node :=
  nodeAtLen pl.f pl.t pl.c ((48 :: specLength G.f0 (rawBytes (msgItems G F h p boots time pl)).length).length
    + (tInt G.fv h.ver).bytes.length + (tSeq G.fh (rawBytes (hdrItems G h))).bytes.length
    + (tStr G.fsp (spBlock G F p boots time)).bytes.length)

/-- `plNode` counts the identifier and length octets in front of the items as `(48 :: _).length` -/
theorem head_length (t : Nat) (l : Bytes) : 0 + 1 + l.length = (t :: l).length := by
  rw [List.length_cons, Nat.zero_add, Nat.add_comm]

theorem wire_at (G : MsgForms) (F : ParamForms) (h : HdrC) (p : UsmParams.Params) (boots time : Bytes) (pl : RawTlv) (trailing : Bytes) :
    At (v3wire G F h p boots time pl trailing) 0 (Spec.tlv G.f0 48 (rawBytes (msgItems G F h p boots time pl))) := At.whole _ _

/-! What follows holds for any datagram that begins with the message (`hat`), as `v3wire` does (`wire_at`). -/
section
variable (hat : At data 0 (Spec.tlv G.f0 48 (rawBytes (msgItems G F h p boots time pl))))
include hat

theorem msg_run : RunAt data (48 :: specLength G.f0 (rawBytes (msgItems G F h p boots time pl)).length).length
    (msgItems G F h p boots time pl) := by
  have := hat.content.run
  rwa [head_length 48] at this

theorem plNode_at : ∃ i, plNode G F h p boots time pl = nodeAtLen pl.f pl.t pl.c i ∧ At data i (Spec.tlv pl.f pl.t pl.c) :=
  ⟨_, rfl, (msg_run hat).2.2.2.1⟩

/-- **The nodes `Message.decode` looks at**, for a message in any admissible length forms with anything
    behind it: the message node and the header node with their items (the last item of the message is
    `plNode`), and the six leaves among them, each the node of the TLV written.  Four items need
    `3 ≤ fuel` (`seqItems_at`). -/
theorem wire_nodes (fuel : Nat) (hok : G.ok F h p boots time pl) (hfuel : 3 ≤ fuel) :
    ∃ n0 nx ver hdr sp mid mms fl sm,
      decodeAt data 0 = .ok (n0, nx) ∧ UsmParams.isInstance n0.entry.name "Sequence" = true ∧
      items data n0 fuel = .ok [ver, hdr, sp, plNode G F h p boots time pl] ∧ items data hdr fuel = .ok [mid, mms, fl, sm] ∧
      NodeOf data ver 2 h.ver ∧ NodeOf data sp 4 (spBlock G F p boots time) ∧
      NodeOf data mid 2 h.mid ∧ NodeOf data mms 2 h.mms ∧ NodeOf data fl 4 h.flg ∧ NodeOf data sm 2 h.mdl := by
  obtain ⟨Tv, Th, Ts, -⟩ := msg_run hat
  obtain ⟨Tm, Tms, Tf, To, -⟩ := (At.content (f := G.fh) (t := 48) Th).run
  have hit0 := items_at (msgItems_ok hok) hat fuel (Nat.succ_le_succ hfuel)
  rw [head_length 48] at hit0
  exact ⟨_, _, _, _, _, _, _, _, _, decodeAt_at hat (tSeq_ok hok.1),
    by rw [nodeAtLen_entry, isInstance_seq], hit0,
    items_at (hdrItems_ok hok) Th fuel (Nat.succ_le_succ hfuel), Tv.nodeOf, Ts.nodeOf, Tm.nodeOf, Tms.nodeOf, Tf.nodeOf, To.nodeOf⟩

/-- **The fields read from the wire are the fields written**: an SNMPv3 message in any admissible
    length forms, with anything behind it, is taken apart into msgID, msgMaxSize, msgFlags,
    msgSecurityModel and the six USM parameters exactly as written; msgData is what `payloadOf`
    makes of its node. -/
theorem v3OfBytes_at {dt : Nat} {dc : Bytes} (hok : G.ok F h p boots time pl) (hF : F.ok p boots time)
    (hb : p.boots = intDecode true boots) (ht : p.time = intDecode true time)
    (hpay : payloadOf data (fromBE h.flg) (plNode G F h p boots time pl) fuel = .ok (dt, dc)) (hfuel : 5 ≤ fuel) :
    v3OfBytes data fuel =
      .ok ⟨intDecode true h.mid, intDecode true h.mms, fromBE h.flg, intDecode true h.mdl,
           p.engineId, p.boots, p.time, p.user, p.auth, p.priv, dt, dc⟩ := by
  obtain ⟨n0, nx, ver, hdr, sp, mid, mms, fl, sm, hdec, he0, hit0, hitH, -, Nsp, Nmid, Nmms, Nfl, Nsm⟩ :=
    wire_nodes hat fuel hok (by omega)
  unfold v3OfBytes
  simp only [hdec, he0, Bool.not_true, Bool.false_eq_true, ↓reduceIte, hit0, hitH, Nfl.octets, Nmid.forced, Nmms.forced, Nsm.forced,
    hpay, Nsp.octets, spBlock, params_wire G.fsi F p boots time hF hok.inner hb ht fuel hfuel, Nmid.int, Nmms.int, Nsm.int]

end

theorem payload_cipher_at {fpl : LenForm} {cipher : Bytes} {flags : Nat}
    (hat : At data 0 (Spec.tlv G.f0 48 (rawBytes (msgItems G F h p boots time (tStr fpl cipher)))))
    (hpriv : flags / 2 % 2 = 1) :
    payloadOf data flags (plNode G F h p boots time (tStr fpl cipher)) fuel = .ok (4, cipher) := by
  obtain ⟨i, hn, hpl⟩ := plNode_at hat
  have hpl : At data i (Spec.tlv fpl 4 cipher) := hpl
  rw [show plNode G F h p boots time (tStr fpl cipher) = nodeAtLen fpl 4 cipher i from hn]
  simp [payloadOf, hpriv, nodeAtLen_content_at hpl]

/-- msgData of a plain message — context engine id, context name and a PDU, each in any form — is handed on as
    these three with the length octets `encode_length` writes -/
theorem payload_scoped_at {fpl : LenForm} {ce cn pdu : RawTlv} {flags : Nat}
    (hat : At data 0 (Spec.tlv G.f0 48 (rawBytes (msgItems G F h p boots time (tSeq fpl (rawBytes [ce, cn, pdu]))))))
    (hplain : flags / 2 % 2 = 0) (hoks : ∀ y ∈ [ce, cn, pdu], y.ok) (hfuel : 2 ≤ fuel) :
    payloadOf data flags (plNode G F h p boots time (tSeq fpl (rawBytes [ce, cn, pdu]))) fuel
      = .ok (48, Ber.tlv 4 ce.c ++ Ber.tlv 4 cn.c ++ Ber.tlv pdu.t pdu.c) := by
  obtain ⟨i, hn, hpl⟩ := plNode_at hat
  have hpl : At data i (Spec.tlv fpl 48 (rawBytes [ce, cn, pdu])) := hpl
  obtain ⟨Te, Tn, Tu, -⟩ := hpl.content.run
  have hcls : UsmParams.isInstance (lookup 48).name "OctetString" = false := by rw [lookup_seq]; decide
  rw [show plNode G F h p boots time (tSeq fpl (rawBytes [ce, cn, pdu])) = nodeAtLen fpl 48 (rawBytes [ce, cn, pdu]) i from hn]
  simp [payloadOf, hplain, hcls, items_at hoks hpl fuel (Nat.succ_le_succ hfuel), rawNodes, tlvOf,
    nodeAtLen_content_at Te, nodeAtLen_content_at Tn, nodeAtLen_content_at Tu]

/-! ### `reset_raw_digest` on a written message

  `RawDigest.wire` describes the same datagram by the ten length forms and tags `reset_raw_digest` passes
  (`RawDigest.Shape`, `Parts`); `reset_v3wire` is what the rest of the development needs of that description. -/

/-- the shape `reset_raw_digest` walks through, for a message written by `v3wire` -/
def shapeOf (G : MsgForms) (F : ParamForms) : RawDigest.Shape :=
  ⟨G.f0, G.fv, G.fh, G.fsp, G.fsi, F.fe, F.fb, F.ft, F.fu, F.fa, 48, 2, 48, 4, 48, 4, 2, 2, 4, 4⟩

def partsOf (G : MsgForms) (F : ParamForms) (h : HdrC) (p : UsmParams.Params) (boots time : Bytes)
    (pl : RawTlv) (trailing : Bytes) : RawDigest.Parts :=
  ⟨h.ver, rawBytes (hdrItems G h), p.engineId, boots, time, p.user, (tStr F.fp p.priv).bytes, pl.bytes, trailing⟩

section
variable (G : MsgForms) (F : ParamForms) (h : HdrC) (p : UsmParams.Params) (boots time : Bytes) (pl : RawTlv) (trailing : Bytes)

theorem inner_eq : RawDigest.inner (shapeOf G F) (partsOf G F h p boots time pl trailing) p.auth
    = rawBytes (paramItems F p boots time) := by
  simp [RawDigest.inner, shapeOf, partsOf, paramItems, rawBytes, RawTlv.bytes, tStr, tInt]

theorem sec_eq : RawDigest.sec (shapeOf G F) (partsOf G F h p boots time pl trailing) p.auth = spBlock G F p boots time := by
  rw [RawDigest.sec, inner_eq]; rfl

theorem body_eq : RawDigest.body (shapeOf G F) (partsOf G F h p boots time pl trailing) p.auth
    = rawBytes (msgItems G F h p boots time pl) := by
  rw [RawDigest.body, sec_eq]
  simp [shapeOf, partsOf, msgItems, rawBytes, RawTlv.bytes, tStr, tInt, tSeq]

theorem v3wire_eq_wire : v3wire G F h p boots time pl trailing
    = RawDigest.wire (shapeOf G F) (partsOf G F h p boots time pl trailing) p.auth := by
  rw [RawDigest.wire, body_eq]; rfl

theorem shape_ok (hok : G.ok F h p boots time pl) (hF : F.ok p boots time) :
    (shapeOf G F).ok (partsOf G F h p boots time pl trailing) p.auth := by
  obtain ⟨h0, hv, hh, _, _, _, _, hsp, hsi, _⟩ := hok
  obtain ⟨he, hbo, hti, hu, ha, _⟩ := hF
  refine ⟨?_, hv, hh, ?_, ?_, he, hbo, hti, hu, ha⟩
  · rw [body_eq]; exact h0
  · rw [sec_eq]; exact hsp
  · rw [inner_eq]; exact hsi

end

/-- **`reset_raw_digest` on a written message**: the same message with twelve zero octets in the digest field, provided
    that field holds twelve octets -/
theorem reset_v3wire {G : MsgForms} {F : ParamForms} {h : HdrC} {p : UsmParams.Params} {boots time : Bytes} {pl : RawTlv}
    (trailing : Bytes) (hok : G.ok F h p boots time pl) (hF : F.ok p boots time) :
    RawDigest.resetRawDigest (v3wire G F h p boots time pl trailing) =
      if p.auth.length = 12 then .ok (v3wire G F h { p with auth := RawDigest.zeros12 } boots time pl trailing)
      else .error .digestLength := by
  -- `partsOf` does not read `p.auth`, so both sides are over the same `Parts`
  rw [v3wire_eq_wire, RawDigest.reset_wire _ _ _ (shape_ok G F h p boots time pl trailing hok hF),
    v3wire_eq_wire G F h { p with auth := RawDigest.zeros12 }]
  rfl

end Snmp.V3Glue
