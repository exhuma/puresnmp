/-
  Values, bindings and PDUs written by the x690 mirror are read back by the specification
  reader.
-/
import Snmp.Lemmas.SpecLemmas
namespace Snmp.Spec
open Snmp.Ber

theorem Small.mono {a b : Nat} (h : a ≤ b) (hb : Small b) : Small a := Nat.lt_of_le_of_lt h hb

/-! What fits, fits in its parts: the smallness of a datagram is handed down to every field. -/

theorem Small.left {a b : Bytes} (h : Small (a ++ b).length) : Small a.length := h.mono (by simp)
theorem Small.right {a b : Bytes} (h : Small (a ++ b).length) : Small b.length := h.mono (by simp)
theorem Small.content {t : Nat} {c : Bytes} (h : Small (Ber.tlv t c).length) : Small c.length :=
  h.mono (by rw [Reenc.tlv_eq_spec, Spec.tlv_length]; exact Nat.le_add_left ..)

theorem length_le_flatten_of_mem {l : List Bytes} {x : Bytes} (h : x ∈ l) : x.length ≤ l.flatten.length := by
  induction l with
  | nil => cases h
  | cons y l ih =>
    simp only [List.flatten_cons, List.length_append]
    rcases List.mem_cons.mp h with rfl | h
    · omega
    · have := ih h; omega

theorem readSeq_of_small (items : List (Nat × Bytes))
    (h : Small ((items.map fun p => Ber.tlv p.1 p.2).flatten).length) :
    readSeq (items.map (fun p => Ber.tlv p.1 p.2)).flatten = some items :=
  readSeq_concat items fun p hp => Small.content (t := p.1)
    (h.mono (length_le_flatten_of_mem (List.mem_map_of_mem (f := fun p => Ber.tlv p.1 p.2) hp)))

/-- … the run given as the encoders write it, `tlv .. ++ tlv .. ++ tlv ..`: bracketed from the left, which is
    what `foldl` computes, so that `hbs` holds by `rfl` for a literal list of items -/
theorem readSeq_written (items : List (Nat × Bytes)) {bs : Bytes} (h : Small bs.length)
    (hbs : bs = items.foldl (fun acc p => acc ++ Ber.tlv p.1 p.2) [] := by rfl) : readSeq bs = some items := by
  rw [hbs, ← List.flatMap_eq_foldl, List.flatMap_def] at h ⊢
  exact readSeq_of_small items h

/-- the values a caller can put into a SET request (or NULL placeholders) -/
def SetVal : Val → Prop
  | .int _ | .counter32 _ | .gauge32 _ | .ticks _ | .counter64 _ | .nsap _ | .null => True
  | .str b | .ip b | .opaque b => Small b.length
  | .oid o => OidDom o
  | _ => False

theorem map_readInt_intEncode {K : Int → Val} (x : Int) : (readInt (intEncode x)).map K = some (K x) :=
  congrArg (Option.map K) (readInt_intEncode x)

theorem encodeVal_read {v : Val} {bs : Bytes} (he : encodeVal v = some bs) (hv : SetVal v) :
    ∃ t c, bs = Ber.tlv t c ∧ readVal t c = some v := by
  obtain ⟨h2, h4, h6, h64, h65, h66, h67, h68, h69, h70, _⟩ := tag_facts
  cases v with
  | int x => exact ⟨2, intEncode x, by rw [← Option.some.inj he, h2], map_readInt_intEncode x⟩
  | str b => exact ⟨4, b, by rw [← Option.some.inj he, h4], rfl⟩
  | null => exact ⟨5, [], by rw [← Option.some.inj he]; rfl, rfl⟩
  | oid o =>
    obtain ⟨ob, ho, hr⟩ := readOid_oidEncode o hv
    exact ⟨6, ob, by simpa [encodeVal, ho, h6] using he.symm, congrArg (Option.map Val.oid) hr⟩
  | ip b => exact ⟨64, b, by rw [← Option.some.inj he, h64], rfl⟩
  | counter32 x => exact ⟨65, intEncode x, by rw [← Option.some.inj he, h65], map_readInt_intEncode x⟩
  | gauge32 x => exact ⟨66, intEncode x, by rw [← Option.some.inj he, h66], map_readInt_intEncode x⟩
  | ticks x => exact ⟨67, intEncode x, by rw [← Option.some.inj he, h67], map_readInt_intEncode x⟩
  | «opaque» b => exact ⟨68, b, by rw [← Option.some.inj he, h68], rfl⟩
  | nsap x => exact ⟨69, intEncode x, by rw [← Option.some.inj he, h69], map_readInt_intEncode x⟩
  | counter64 x => exact ⟨70, intEncode x, by rw [← Option.some.inj he, h70], map_readInt_intEncode x⟩
  | noSuchObject | noSuchInstance | endOfMibView | unknown _ _ => exact hv.elim

def BindOk (vb : VarBind) : Prop := OidDom vb.1 ∧ SetVal vb.2

theorem encodeVarBind_read {vb : VarBind} {bs : Bytes} (he : encodeVarBind vb = some bs) (hv : BindOk vb)
    (hs : Small bs.length) : ∃ c, bs = Ber.tlv 48 c ∧ readVarBind (48, c) = some vb := by
  obtain ⟨ob, ho, hr⟩ := readOid_oidEncode vb.1 hv.1
  simp only [encodeVarBind, ho, Option.bind_eq_bind, Option.bind_some, Option.bind_eq_some_iff, Option.pure_def,
    Option.some.injEq] at he
  obtain ⟨vbytes, hvb, rfl⟩ := he
  obtain ⟨t, c, rfl, hrv⟩ := encodeVal_read hvb hv.2
  rw [tagOf_oid, tagOf_seq] at hs ⊢
  have hseq := readSeq_written [(6, ob), (t, c)] hs.content
  exact ⟨_, rfl, by simp [readVarBind, hseq, hr, hrv]⟩

theorem mapM_encodeVarBind {vbs : List VarBind} {items : List Bytes} (he : vbs.mapM encodeVarBind = some items)
    (hv : ∀ vb ∈ vbs, BindOk vb) (hs : Small items.flatten.length) :
    ∃ cs : List Bytes, items = cs.map (Ber.tlv 48) ∧ cs.mapM (fun c => readVarBind (48, c)) = some vbs := by
  induction vbs generalizing items with
  | nil => exact ⟨[], by simpa using he.symm, rfl⟩
  | cons vb vbs ih =>
    simp only [List.mapM_cons, Option.bind_eq_bind, Option.bind_eq_some_iff, Option.pure_def, Option.some.injEq] at he
    obtain ⟨b0, hb0, its, hits, rfl⟩ := he
    obtain ⟨c, rfl, hrc⟩ := encodeVarBind_read hb0 (hv vb List.mem_cons_self) hs.left
    obtain ⟨cs, rfl, hrs⟩ := ih hits (fun w hw => hv w (List.mem_cons_of_mem _ hw)) hs.right
    exact ⟨c :: cs, rfl, by simp [List.mapM_cons, hrc, hrs]⟩

theorem encodeVarBinds_read {vbs : List VarBind} {bs : Bytes} (he : encodeVarBinds vbs = some bs)
    (hv : ∀ vb ∈ vbs, BindOk vb) (hs : Small bs.length) :
    ∃ c, bs = Ber.tlv 48 c ∧ ∃ items, readSeq c = some items ∧ items.mapM readVarBind = some vbs := by
  simp only [encodeVarBinds, Option.bind_eq_bind, Option.bind_eq_some_iff, Option.pure_def, Option.some.injEq,
    tagOf_seq] at he
  obtain ⟨items, hitems, rfl⟩ := he
  obtain ⟨cs, rfl, hrs⟩ := mapM_encodeVarBind hitems hv hs.content
  refine ⟨_, rfl, cs.map (fun c => (48, c)), ?_, by rw [List.mapM_map]; exact hrs⟩
  have := readSeq_of_small (cs.map fun c => (48, c)) (by simpa [List.map_map, Function.comp_def] using hs.content)
  simpa [List.map_map, Function.comp_def] using this

theorem encodePdu_read {cls : String} {rid a b : Int} {vbs : List VarBind} {bs : Bytes}
    (he : encodePdu cls rid a b vbs = some bs) (hv : ∀ vb ∈ vbs, BindOk vb) (hs : Small bs.length) :
    ∃ c, bs = Ber.tlv (tagOf cls) c ∧ readPdu (tagOf cls) c = some ⟨tagOf cls, rid, a, b, vbs⟩ := by
  simp only [encodePdu, Option.bind_eq_bind, Option.bind_eq_some_iff, Option.pure_def, Option.some.injEq] at he
  obtain ⟨vbb, hvbb, rfl⟩ := he
  have hc := hs.content
  obtain ⟨c, rfl, items, hi1, hi2⟩ := encodeVarBinds_read hvbb hv hc.right
  have hseq := readSeq_written [(2, intEncode rid), (2, intEncode a), (2, intEncode b), (48, c)] hc
  exact ⟨_, rfl, by rw [readPdu, hseq]; simp [hi1, hi2, readInt_intEncode]⟩

end Snmp.Spec
