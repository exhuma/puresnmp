/-
  The length octets of the x690 mirror `Snmp.Ber` and of the specification (`specLength`, every
  admissible definite form), and the vocabulary for what an agent puts on the wire: `RawTlv`,
  `rawBytes`, `Reenc.formOf` / `Reenc.norm` (the form `encode_length` itself chooses), `Spec.Small`.
-/
import Snmp.Model.BerSpec

theorem Except.eq_ok_of_toOption {ε α} {x : Except ε α} {a : α} (h : x.toOption = some a) : x = .ok a := by
  cases x with
  | error e => cases h
  | ok b => exact congrArg Except.ok (Option.some.inj h)

theorem Except.bind_eq_ok {ε α β} {x : Except ε α} {f : α → Except ε β} {b : β} (h : x >>= f = .ok b) :
    ∃ a, x = .ok a ∧ f a = .ok b := by
  cases x with
  | error e => cases h
  | ok a => exact ⟨a, rfl, h⟩

theorem Except.toOption_map {ε α β} (f : α → β) (x : Except ε α) : (x.map f).toOption = x.toOption.map f := by
  cases x <;> rfl

namespace Snmp.Spec

/-- a length the long form can carry: the first length octet `0xFF` is reserved (X.690 8.1.3.5), so
    `0x80 + k` announces at most `k = 126` length octets -/
def Small (n : Nat) : Prop := n < 256 ^ 126

end Snmp.Spec

namespace Snmp.Ber

theorem fromBE_append_single (bs : Bytes) (b : Nat) : fromBE (bs ++ [b]) = fromBE bs * 256 + b := by
  simp [fromBE, List.foldl_append]

theorem toBE_zero : toBE 0 = [] := by rw [toBE]; rfl

theorem toBE_unfold (n : Nat) (h : n ≠ 0) : toBE n = toBE (n / 256) ++ [n % 256] := by
  rw [toBE, dif_neg h]

theorem fromBE_toBE (n : Nat) : fromBE (toBE n) = n := by
  induction n using toBE.induct with
  | case1 => rw [toBE_zero]; rfl
  | case2 n h ih => rw [toBE_unfold n h, fromBE_append_single, ih, Nat.div_add_mod']

theorem toBE_bytes (n : Nat) : ∀ b ∈ toBE n, b < 256 := by
  induction n using toBE.induct with
  | case1 => rw [toBE_zero]; nofun
  | case2 n h ih =>
    rw [toBE_unfold n h, List.forall_mem_append, List.forall_mem_singleton]
    exact ⟨ih, Nat.mod_lt n (by decide)⟩

theorem toBE_length_le (n k : Nat) (h : n < 256 ^ k) : (toBE n).length ≤ k := by
  induction n using toBE.induct generalizing k with
  | case1 => rw [toBE_zero]; exact Nat.zero_le k
  | case2 n hn ih =>
    cases k with
    | zero => exact absurd (Nat.lt_one_iff.mp h) hn
    | succ k =>
      rw [toBE_unfold n hn, List.length_append, List.length_singleton]
      exact Nat.succ_le_succ (ih k (Nat.div_lt_of_lt_mul (Nat.pow_succ' ▸ h)))

theorem toBE_length_pos (n : Nat) (h : n ≠ 0) : 0 < (toBE n).length := by
  rw [toBE_unfold n h, List.length_append]; exact Nat.succ_pos _

theorem fromBE_foldl (acc : Nat) (bs : Bytes) :
    bs.foldl (fun a b => a * 256 + b) acc = acc * 256 ^ bs.length + fromBE bs := by
  induction bs generalizing acc with
  | nil => simp [fromBE]
  | cons b bs ih =>
    simp only [List.foldl_cons, List.length_cons, fromBE]
    rw [ih, ih (0 * 256 + b)]
    simp [Nat.pow_succ, Nat.add_mul, Nat.mul_assoc, Nat.mul_comm 256, Nat.add_assoc]

theorem fromBE_cons (b : Nat) (bs : Bytes) : fromBE (b :: bs) = b * 256 ^ bs.length + fromBE bs := by
  simp only [fromBE, List.foldl_cons]
  rw [fromBE_foldl]; simp [fromBE]

theorem fromBE_zeros (z : Nat) (bs : Bytes) : fromBE (List.replicate z 0 ++ bs) = fromBE bs := by
  induction z with
  | zero => simp
  | succ z ih => rw [List.replicate_succ, List.cons_append, fromBE_cons, ih]; simp

theorem toBE_127 : toBE 127 = [127] := by
  rw [toBE_unfold 127 (by decide), toBE_zero]; rfl

/-- what every admissible form writes: the length itself (below 128), or `0x80 + k` followed by
    `k` octets (1 ≤ k ≤ 126) that read back as the length -/
theorem specLength_cases (f : LenForm) (n : Nat) (hf : f.ok n) :
    (n < 128 ∧ specLength f n = [n]) ∨
    ∃ ds : Bytes, specLength f n = (128 + ds.length) :: ds ∧ 1 ≤ ds.length ∧ ds.length ≤ 126 ∧ fromBE ds = n := by
  cases f with
  | minimal =>
    by_cases h : n < 128
    · exact .inl ⟨h, if_pos h⟩
    · exact .inr ⟨toBE n, if_neg h, toBE_length_pos n (by omega), toBE_length_le n 126 hf, fromBE_toBE n⟩
  | long k =>
    obtain ⟨hk1, hk2, hn⟩ := hf
    have hlen : (List.replicate (k - (toBE n).length) 0 ++ toBE n).length = k := by
      rw [List.length_append, List.length_replicate, Nat.sub_add_cancel (toBE_length_le n k hn)]
    exact .inr ⟨List.replicate (k - (toBE n).length) 0 ++ toBE n, by rw [hlen]; rfl, hlen.symm ▸ hk1, hlen.symm ▸ hk2,
      by rw [fromBE_zeros, fromBE_toBE]⟩

/-- a TLV as an agent writes it: length form, identifier octet, content -/
structure RawTlv where
  f : LenForm
  t : Nat
  c : Bytes

def RawTlv.bytes (x : RawTlv) : Bytes := Spec.tlv x.f x.t x.c

/-- admissible form, and an identifier octet `x690.decode` can make an object of -/
def RawTlv.ok (x : RawTlv) : Prop :=
  x.f.ok x.c.length ∧ (x.t ≠ 255 ∧ Gen.noDefaultCtor.contains (lookup x.t).name = false)

def rawBytes : List RawTlv → Bytes
  | [] => []
  | x :: xs => x.bytes ++ rawBytes xs

theorem _root_.Snmp.Spec.tlv_length (f : LenForm) (t : Nat) (c : Bytes) :
    (Spec.tlv f t c).length = 1 + (specLength f c.length).length + c.length := by
  simp [Spec.tlv]; omega

theorem RawTlv.bytes_pos (x : RawTlv) : 0 < x.bytes.length := by
  rw [RawTlv.bytes, Spec.tlv_length]; omega

theorem rawBytes_cons_length (x : RawTlv) (xs : List RawTlv) :
    (rawBytes (x :: xs)).length = x.bytes.length + (rawBytes xs).length := List.length_append

theorem rawBytes_length_ge : ∀ (xs : List RawTlv), xs.length ≤ (rawBytes xs).length
  | [] => Nat.le_refl _
  | x :: xs => by
    have := rawBytes_length_ge xs
    have := x.bytes_pos
    rw [rawBytes_cons_length, List.length_cons]
    omega

end Snmp.Ber

namespace Snmp.Reenc
open Snmp.Ber Snmp.Spec

/-- the length form `encode_length` chooses: the minimal one, except that it goes over to the long form
    one early, at 127 (`81 7f`) -/
def formOf (n : Nat) : LenForm := if n = 127 then .long 1 else .minimal

theorem encodeLength_formOf (n : Nat) : encodeLength n = specLength (formOf n) n := by
  unfold formOf
  by_cases h : n = 127
  · subst h
    simp only [↓reduceIte, encodeLength, specLength, toBE_127]
    decide
  · simp only [h, ↓reduceIte, encodeLength, specLength]
    by_cases h1 : n < 127
    · simp [h1, show n < 128 by omega]
    · simp [h1, show ¬ n < 128 by omega]

theorem formOf_ok (n : Nat) (h : Small n) : (formOf n).ok n := by
  unfold formOf
  by_cases h127 : n = 127
  · subst h127; simp [LenForm.ok]
  · simp only [h127, ↓reduceIte, LenForm.ok]; exact h

/-- `X690Type.__bytes__` writes a TLV of the specification with the form `encode_length` chooses -/
theorem tlv_eq_spec (t : Nat) (c : Bytes) : Ber.tlv t c = Spec.tlv (formOf c.length) t c := by
  simp [Ber.tlv, Spec.tlv, encodeLength_formOf]

/-- a TLV as `bytes(obj)` writes it -/
def norm (t : Nat) (c : Bytes) : RawTlv := ⟨formOf c.length, t, c⟩

theorem norm_bytes (t : Nat) (c : Bytes) : (norm t c).bytes = Ber.tlv t c := by
  simp [norm, RawTlv.bytes, tlv_eq_spec]

end Snmp.Reenc
