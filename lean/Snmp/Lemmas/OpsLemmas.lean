/-
  What `Ops.recv` (`Client._send` after the request left) makes of a message: the wrapper checks of
  the security model, the error-status, the request id.  v1 and v3 raise on the error-status before
  they look at the wrapper; the lemmas are stated so that the order does not show.
-/
import Snmp.Model.Ops
namespace Snmp.Ops

/-- version and community as `mpmDecode` wants them (v3 has neither) -/
def WrapperOk : Proto → RespMsg → Prop
  | .v2c c, m => m.version = 1 ∧ m.community = c
  | .v1 c, m => m.version = 0 ∧ m.community = c
  | .v3, _ => True

theorem recv_msg_of_wrapper (proto : Proto) (rid : Int) (m : RespMsg) (hw : WrapperOk proto m) :
    recv proto rid (.ok m) =
      if m.pdu.errorStatus ≠ 0 then .error (errorOf m.pdu)
      else if m.pdu.requestId ≠ rid then .error .invalidResponseId else .ok m.pdu := by
  by_cases he : m.pdu.errorStatus = 0 <;> cases proto <;>
    simp_all [WrapperOk, recv, mpmDecode, forcePdu, bind, Except.bind, pure, Except.pure, throw, throwThe, MonadExceptOf.throw]

theorem recv_msg_bad_wrapper (proto : Proto) (rid : Int) (m : RespMsg) (p : PduResp) (hw : ¬ WrapperOk proto m) :
    recv proto rid (.ok m) ≠ .ok p := by
  cases proto with
  | v3 => exact absurd trivial hw
  | v2c c => simp_all [WrapperOk, recv, mpmDecode, bind, Except.bind]
  | v1 c => by_cases he : m.pdu.errorStatus = 0 <;> simp_all [WrapperOk, recv, mpmDecode, forcePdu, bind, Except.bind]

/-- **What `_send` hands back.**  A message yields a result exactly when it passes the wrapper
    checks, carries no error-status and echoes the request id; the result is its PDU. -/
theorem recv_msg_ok_iff {proto : Proto} {rid : Int} {m : RespMsg} {p : PduResp} :
    recv proto rid (.ok m) = .ok p ↔
      WrapperOk proto m ∧ m.pdu.errorStatus = 0 ∧ m.pdu.requestId = rid ∧ p = m.pdu := by
  by_cases hw : WrapperOk proto m
  · rw [recv_msg_of_wrapper proto rid m hw]
    by_cases he : m.pdu.errorStatus = 0 <;> by_cases hid : m.pdu.requestId = rid <;> simp [hw, he, hid, eq_comm]
  · exact ⟨fun h => absurd h (recv_msg_bad_wrapper proto rid m p hw), fun h => absurd h.1 hw⟩

theorem recv_ok_iff {proto : Proto} {rid : Int} {r : Except Err RespMsg} {p : PduResp} :
    recv proto rid r = .ok p ↔
      ∃ m, r = .ok m ∧ WrapperOk proto m ∧ m.pdu.errorStatus = 0 ∧ m.pdu.requestId = rid ∧ p = m.pdu := by
  cases r with
  | error e => simp [recv, bind, Except.bind]
  | ok m => simp [recv_msg_ok_iff]

end Snmp.Ops
