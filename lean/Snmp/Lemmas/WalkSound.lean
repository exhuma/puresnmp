/-
  `Snmp.Walk.multiwalk` with ANY fetcher, conformant or not: the walk does not depend on the
  listing order of the roots, every yielded binding lies inside a requested root and no OID is
  yielded twice.
-/
import Snmp.Lemmas.WalkLoop
namespace Snmp.Walk

theorem multiwalk_perm (fetch : Fetcher) (roots roots' : List Oid) (h : roots'.Perm roots) (lenient : Bool) (fuel : Nat) :
    multiwalk fetch roots' lenient fuel = multiwalk fetch roots lenient fuel := by
  unfold multiwalk
  rw [sortOids_perm roots roots' h]

/-- the invariant, of the `yielded` set: no repetition, every element inside a requested root
    (that the set is the list of OIDs yielded so far is carried beside it: `yieldOids ev = yielded`) -/
def Good (roots : List Oid) (yielded : List Oid) : Prop :=
  yielded.Nodup ∧ ∀ y ∈ yielded, ∃ r ∈ roots, inside r y = true

theorem deduped_good (roots : List Oid) (g : Groups) (yielded : List Oid) (hg : Good roots yielded) :
    Good roots (deduped roots g yielded).2 := by
  obtain ⟨new, h, _, h3, h4, _⟩ := deduped_spec roots g yielded
  rw [h]
  refine ⟨List.nodup_append.mpr ⟨hg.1, h4, ?_⟩, fun y hy => ?_⟩
  · intro a ha b hb hab
    obtain ⟨v, hv, rfl⟩ := List.mem_map.mp hb
    exact (h3 v hv).2 (hab ▸ ha)
  · rcases List.mem_append.mp hy with h | h
    · exact hg.2 y h
    · obtain ⟨v, hv, rfl⟩ := List.mem_map.mp h
      exact List.any_eq_true.mp (h3 v hv).1

theorem loop_good (fetch : Fetcher) (roots : List Oid) (lenient : Bool)
    (fuel : Nat) (unf : List (Oid × VarBind)) (yielded : List Oid) (ev : List Event)
    (hg : Good roots yielded) (he : yieldOids ev = yielded) :
    Good roots (yieldOids (loop fetch roots lenient fuel unf yielded ev).events) := by
  obtain ⟨_, _, y', ev', _, ⟨hg', he'⟩, hs⟩ := loop_ends fetch roots lenient
    (fun _ _ y ev => Good roots y ∧ yieldOids ev = y)
    (fun _ _ y _ _ g h _ _ _ => ⟨deduped_good roots g y h.1, yieldOids_next h.2 roots _ g⟩)
    fuel 0 unf yielded ev ⟨hg, he⟩
  rw [hs.yieldOids, he']; exact hg'

theorem multiwalk_good (fetch : Fetcher) (roots : List Oid) (lenient : Bool) (fuel : Nat) :
    Good (sortOids roots) (yieldOids (multiwalk fetch roots lenient fuel).events) := by
  have hg0 : Good (sortOids roots) [] := ⟨List.nodup_nil, by intro y hy; cases hy⟩
  cases hf : fetch (sortOids roots) with
  | error e => rw [multiwalk_error lenient fuel hf]; exact hg0
  | ok vbs =>
    unfold multiwalk
    simp only [hf]
    cases hgv : groupVarbinds vbs (sortOids roots) [] with
    | error e => exact hg0
    | ok g =>
      exact loop_good fetch (sortOids roots) lenient fuel _ _ _ (deduped_good _ g [] hg0)
        (yieldOids_next (ev := []) rfl _ _ g)

/-- **Soundness and exactly-once for any agent.**  Whatever the fetcher returns — conformant,
    truncating, lying — every binding the walk yields lies inside one of the requested roots and
    no OID is yielded twice. -/
theorem multiwalk_sound (fetch : Fetcher) (roots : List Oid) (lenient : Bool) (fuel : Nat) :
    (yieldOids (multiwalk fetch roots lenient fuel).events).Nodup ∧
    ∀ y ∈ yieldOids (multiwalk fetch roots lenient fuel).events, ∃ r ∈ roots, r <+: y := by
  have h := multiwalk_good fetch roots lenient fuel
  refine ⟨h.1, fun y hy => ?_⟩
  obtain ⟨r, hr, hin⟩ := h.2 y hy
  exact ⟨r, mem_sortOids.mp hr, (inside_iff r y).mp hin⟩

end Snmp.Walk
