/-
  Base-128 sub-identifier coding of `ObjectIdentifier`: what the encoder writes, the decoder's
  loop reads back.
-/
import Snmp.Lemmas.BerLemmas
namespace Snmp.Ber

theorem hi128_unfold (x : Nat) (h : x ≠ 0) : hi128 x = hi128 (x / 128) ++ [x % 128 + 128] := by
  rw [hi128]; simp [h]

theorem hi128_zero : hi128 0 = [] := by rw [hi128]; simp

theorem subidsGo_none_hi (b : Nat) (rest : Bytes) (h : b > 127) :
    subidsGo (b :: rest) none = subidsGo rest (some (b - 128)) := by
  rw [subidsGo]; simp [h]

theorem subidsGo_none_lo (b : Nat) (rest : Bytes) (h : ¬ b > 127) :
    subidsGo (b :: rest) none = (subidsGo rest none).map (b :: ·) := by
  rw [subidsGo]; simp [h]

theorem subidsGo_some_hi (b acc : Nat) (rest : Bytes) (h : b > 127) :
    subidsGo (b :: rest) (some acc) = subidsGo rest (some (acc * 128 + (b - 128))) := by
  rw [subidsGo]; simp [h]

theorem subidsGo_some_lo (b acc : Nat) (rest : Bytes) (h : ¬ b > 127) :
    subidsGo (b :: rest) (some acc) = (subidsGo rest none).map ((acc * 128 + b) :: ·) := by
  rw [subidsGo]; simp [h]

theorem subidsGo_hi128 (x : Nat) (hx : x ≠ 0) (tail : Bytes) :
    subidsGo (hi128 x ++ tail) none = subidsGo tail (some x) := by
  induction x using hi128.induct generalizing tail with
  | case1 => exact absurd rfl hx
  | case2 x _ ih =>
    have hgt : x % 128 + 128 > 127 := Nat.lt_add_left _ (by decide)
    rw [hi128_unfold x hx, List.append_assoc, List.singleton_append]
    by_cases hsmall : x / 128 = 0
    · rw [hsmall, hi128_zero, List.nil_append, subidsGo_none_hi _ _ hgt, Nat.add_sub_cancel,
        Nat.mod_eq_of_lt (Nat.lt_of_div_eq_zero (by decide) hsmall)]
    · rw [ih hsmall, subidsGo_some_hi _ _ _ hgt, Nat.add_sub_cancel, Nat.div_add_mod']

theorem subidsGo_subidEncode (v : Nat) (rest : Bytes) :
    subidsGo (subidEncode v ++ rest) none = (subidsGo rest none).map (v :: ·) := by
  unfold subidEncode
  by_cases hv : v ≤ 127
  · rw [if_pos hv, List.singleton_append, subidsGo_none_lo _ _ (Nat.not_lt.mpr hv)]
  · rw [if_neg hv, List.append_assoc, List.singleton_append,
      subidsGo_hi128 (v / 128) (Nat.div_ne_zero_iff.mpr ⟨by decide, by omega⟩),
      subidsGo_some_lo _ _ _ (Nat.not_lt.mpr (Nat.le_of_lt_succ (Nat.mod_lt v (by decide)))), Nat.div_add_mod']

theorem subidsDecode_flatMap (l : List Nat) : subidsDecode (l.flatMap subidEncode) = .ok l := by
  unfold subidsDecode
  induction l with
  | nil => simp only [List.flatMap_nil]; rw [subidsGo]
  | cons v l ih =>
    simp only [List.flatMap_cons]
    rw [subidsGo_subidEncode, ih]
    rfl

/-- the OIDs BER (and x690) can carry with the first two arcs in one octet -/
def OidDom (o : Oid) : Prop := ∃ a b rest, o = a :: b :: rest ∧ a ≤ 2 ∧ b < 40

theorem oidEncode_dom {a b : Nat} (rest : List Nat) (ha : a ≤ 2) (hb : b < 40) :
    oidEncode (a :: b :: rest) = some ((40 * a + b) :: rest.flatMap subidEncode) := by
  have hlt : 40 * a + b < 256 := by omega
  simp [oidEncode, hlt]

theorem oidDecode_packed (a : Nat) {b : Nat} (rest : List Nat) (hb : b < 40) :
    oidDecode ((40 * a + b) :: rest.flatMap subidEncode) = .ok (a :: b :: rest) := by
  rw [oidDecode, subidsDecode_flatMap, Nat.mul_add_div (by decide), Nat.mul_add_mod, Nat.div_eq_of_lt hb,
    Nat.mod_eq_of_lt hb]
  rfl

/-- `ObjectIdentifier` round trip on the domain: any number of further arcs, of any size -/
theorem oidDecode_oidEncode (o : Oid) (h : OidDom o) : ∃ bs, oidEncode o = some bs ∧ oidDecode bs = .ok o := by
  rcases h with ⟨a, b, rest, rfl, ha, hb⟩
  exact ⟨_, oidEncode_dom rest ha hb, oidDecode_packed a rest hb⟩

theorem hi128_bytes (x : Nat) : ∀ b ∈ hi128 x, b < 256 := by
  induction x using hi128.induct with
  | case1 => rw [hi128_zero]; nofun
  | case2 x hx ih =>
    rw [hi128_unfold x hx, List.forall_mem_append, List.forall_mem_singleton]
    exact ⟨ih, Nat.add_lt_add_right (Nat.mod_lt x (by decide)) 128⟩

theorem subidEncode_bytes (v : Nat) : ∀ b ∈ subidEncode v, b < 256 := by
  unfold subidEncode
  split
  · rename_i hv
    rw [List.forall_mem_singleton]
    exact Nat.lt_of_le_of_lt hv (by decide)
  · rw [List.forall_mem_append, List.forall_mem_singleton]
    exact ⟨hi128_bytes _, Nat.lt_trans (Nat.mod_lt v (by decide)) (by decide)⟩

end Snmp.Ber
