/-
  C13 — UDP sender: bounded retries, exact timeout behaviour, no socket left open.
  Model: `Snmp.Udp`.  (Partial by nature: kernel socket behaviour, ICMP timing and garbage
  collection are outside the model and only observed on loopback by the thorough tier.)
-/
import Snmp.Model.Udp
import Snmp.Gen.Facts
namespace Snmp.Props.C13
open Snmp.Udp

def unanswered (timeout : Nat) (o : Outcome) : Prop := attempt timeout o = Option.none

/-- `g` is `f` after `n` more attempts: `n` transmissions of `p`, `n` endpoints opened and closed -/
def Sent (p : Bytes) (n : Nat) (f g : Final) : Prop :=
  g.sends = f.sends ++ List.replicate n p ∧ g.opened = f.opened + n ∧ g.closed = f.closed + n

theorem Sent.one (p : Bytes) (f : Final) (e : Nat) (res : Except UErr Bytes) :
    Sent p 1 f ⟨f.sends ++ [p], f.opened + 1, f.closed + 1, e, res⟩ := ⟨rfl, rfl, rfl⟩

theorem Sent.step {p : Bytes} {n : Nat} {f g : Final} {e : Nat} {res : Except UErr Bytes}
    (h : Sent p n ⟨f.sends ++ [p], f.opened + 1, f.closed + 1, e, res⟩ g) : Sent p (n + 1) f g := by
  obtain ⟨h1, h2, h3⟩ := h
  exact ⟨by rw [h1, List.replicate_succ]; exact List.append_assoc ..,
    h2.trans (Nat.add_right_comm ..), h3.trans (Nat.add_right_comm ..)⟩

theorem Sent.call {p : Bytes} {n r e : Nat} {res : Except UErr Bytes} {g : Final}
    (h : Sent p n ⟨[], 0, 0, e, res⟩ g) (hn : n ≤ r) :
    g.opened = g.closed ∧ g.sends.length ≤ r ∧ ∀ s ∈ g.sends, s = p := by
  obtain ⟨h1, h2, h3⟩ := h
  rw [h1, h2, h3]
  exact ⟨rfl, by simpa using hn, fun s hs => List.eq_of_mem_replicate (by simpa using hs)⟩

theorem loop_spec (p : Bytes) (t : Nat) (r : Nat) (outs : List Outcome) (f : Final) :
    ∃ n, n ≤ r ∧ Sent p n f (loop p t r outs f) := by
  induction r generalizing outs f with
  | zero => exact ⟨0, Nat.le_refl _, by simp [Sent, loop]⟩
  | succ r ih =>
    rw [loop]
    split
    · exact ⟨1, Nat.le_add_left 1 r, Sent.one ..⟩
    · split
      · exact ⟨1, Nat.le_add_left 1 r, Sent.one ..⟩
      · obtain ⟨n, hn, h⟩ := ih outs.tail ⟨f.sends ++ [p], f.opened + 1, f.closed + 1, f.elapsed + t, f.result⟩
        exact ⟨n + 1, Nat.succ_le_succ hn, h.step⟩

/-- At most `retries` transmissions, each of them the identical request. -/
theorem C13_send_bound (packet : Bytes) (timeout retries : Nat) (outs : List Outcome) :
    (sendUdp packet timeout retries outs).sends.length ≤ retries ∧
    ∀ s ∈ (sendUdp packet timeout retries outs).sends, s = packet :=
  have ⟨_, hn, h⟩ := loop_spec packet timeout retries outs ⟨[], 0, 0, 0, .error .unbound⟩
  (h.call hn).2

/-- Every endpoint the call opened has been closed when it returns or raises — whatever the
    network did (reply, silence, late or duplicate replies, ICMP/OS error, connection lost). -/
theorem C13_no_socket_left (packet : Bytes) (timeout retries : Nat) (outs : List Outcome) :
    (sendUdp packet timeout retries outs).opened = (sendUdp packet timeout retries outs).closed :=
  have ⟨_, hn, h⟩ := loop_spec packet timeout retries outs ⟨[], 0, 0, 0, .error .unbound⟩
  (h.call hn).1

theorem head_getD (outs : List Outcome) : outs.head?.getD Outcome.none = outs.getD 0 Outcome.none := by
  cases outs <;> rfl

theorem tail_getD (outs : List Outcome) (i : Nat) : outs.tail.getD i Outcome.none = outs.getD (i + 1) Outcome.none := by
  cases outs <;> rfl

theorem add_succ_mul (e t k : Nat) : e + t + k * t = e + (k + 1) * t := by
  rw [Nat.succ_mul, Nat.add_assoc, Nat.add_comm t]

theorem length_snoc_add (l : List Bytes) (p : Bytes) (k : Nat) : (l ++ [p]).length + k = l.length + (k + 1) := by
  rw [List.length_append, List.length_singleton, Nat.add_assoc, Nat.add_comm 1]

theorem loop_unanswered (p : Bytes) (t r : Nat) (outs : List Outcome) (f : Final)
    (hu : unanswered t (outs.getD 0 .none)) :
    loop p t (r + 2) outs f =
      loop p t (r + 1) outs.tail ⟨f.sends ++ [p], f.opened + 1, f.closed + 1, f.elapsed + t, f.result⟩ := by
  rw [loop, head_getD]
  simp only [show attempt t (outs.getD 0 .none) = Option.none from hu, Nat.succ_ne_zero, ↓reduceIte]

theorem loop_first (p : Bytes) (t k r : Nat) (outs : List Outcome) (f : Final) (res : Except UErr Bytes) (d : Nat)
    (hk : k < r) (hun : ∀ i < k, unanswered t (outs.getD i .none))
    (hat : attempt t (outs.getD k .none) = some (res, d)) :
    (loop p t r outs f).result = res ∧ (loop p t r outs f).elapsed = f.elapsed + k * t + d ∧
    (loop p t r outs f).sends.length = f.sends.length + k + 1 := by
  induction k generalizing r outs f with
  | zero =>
    obtain ⟨r, rfl⟩ := Nat.exists_eq_add_one.mpr hk
    rw [loop, head_getD]
    simp only [hat]
    simp
  | succ k ih =>
    obtain ⟨r, rfl⟩ := Nat.exists_eq_add_of_le' (Nat.lt_of_le_of_lt (Nat.le_add_left 1 k) hk)
    rw [loop_unanswered p t r outs f (hun 0 (Nat.succ_pos k))]
    obtain ⟨h1, h2, h3⟩ := ih (r + 1) outs.tail _ (Nat.lt_of_succ_lt_succ hk)
      (fun i hi => by rw [tail_getD]; exact hun (i + 1) (Nat.succ_lt_succ hi)) (by rw [tail_getD]; exact hat)
    exact ⟨h1, by rw [h2, add_succ_mul], by rw [h3, length_snoc_add]⟩

/-- The first reply that arrives within its attempt's timeout ends the call at once: its bytes
    are returned unmodified, after `k` full timeouts plus its own delay, with `k + 1`
    transmissions.  (An error reported for attempt `k` ends the call the same way.) -/
theorem C13_first_reply (packet : Bytes) (timeout retries k : Nat) (outs : List Outcome)
    (res : Except UErr Bytes) (d : Nat) (hk : k < retries)
    (hun : ∀ i < k, unanswered timeout (outs.getD i .none))
    (hat : attempt timeout (outs.getD k .none) = some (res, d)) :
    (sendUdp packet timeout retries outs).result = res ∧
    (sendUdp packet timeout retries outs).elapsed = k * timeout + d ∧
    (sendUdp packet timeout retries outs).sends.length = k + 1 := by
  have := loop_first packet timeout k retries outs ⟨[], 0, 0, 0, .error .unbound⟩ res d hk hun hat
  simpa [sendUdp] using this

theorem attempt_not_timeout (t : Nat) (o : Outcome) (res : Except UErr Bytes) (d : Nat)
    (h : attempt t o = some (res, d)) : res ≠ .error .timeout := by
  rintro rfl
  -- every `some` in `attempt` carries `.ok _`, `osError` or `connectionLost`
  cases o with
  | twoReplies => simp only [attempt] at h; split at h <;> simp at h
  | lost _ w => cases w <;> simp [attempt] at h
  | _ => simp [attempt] at h

theorem loop_all_unanswered (p : Bytes) (t r : Nat) (outs : List Outcome) (f : Final)
    (hun : ∀ i < r + 1, unanswered t (outs.getD i .none)) :
    (loop p t (r + 1) outs f).result = .error .timeout ∧
    (loop p t (r + 1) outs f).elapsed = f.elapsed + (r + 1) * t ∧
    (loop p t (r + 1) outs f).sends.length = f.sends.length + (r + 1) := by
  induction r generalizing outs f with
  | zero =>
    rw [loop, head_getD]
    simp only [show attempt t (outs.getD 0 .none) = Option.none from hun 0 (Nat.succ_pos 0)]
    exact ⟨rfl, by simp, by simp⟩
  | succ r ih =>
    rw [loop_unanswered p t r outs f (hun 0 (Nat.succ_pos _))]
    obtain ⟨h0, h1, h2⟩ := ih outs.tail ⟨f.sends ++ [p], f.opened + 1, f.closed + 1, f.elapsed + t, f.result⟩
      (fun i hi => by rw [tail_getD]; exact hun (i + 1) (Nat.succ_lt_succ hi))
    exact ⟨h0, by rw [h1, add_succ_mul], by rw [h2, length_snoc_add]⟩

theorem loop_timeout_first {p : Bytes} {t r : Nat} {outs : List Outcome} {f : Final}
    (h : (loop p t (r + 1) outs f).result = .error .timeout) : unanswered t (outs.getD 0 .none) := by
  cases ha : attempt t (outs.getD 0 .none) with
  | none => exact ha
  | some rd =>
    -- an answered first attempt ends the loop with its own result, which is never `Timeout`
    rw [(loop_first p t 0 (r + 1) outs f rd.1 rd.2 (Nat.succ_pos r) (fun _ h => absurd h (Nat.not_lt_zero _)) ha).1] at h
    exact absurd h (attempt_not_timeout t _ rd.1 rd.2 ha)

theorem loop_timeout_only (p : Bytes) (t : Nat) :
    ∀ (i r : Nat) (outs : List Outcome) (f : Final), i < r + 1 →
      (loop p t (r + 1) outs f).result = .error .timeout → unanswered t (outs.getD i .none)
  | 0, _, _, _, _, h => loop_timeout_first h
  | _ + 1, 0, _, _, hi, _ => absurd (Nat.lt_of_succ_lt_succ hi) (Nat.not_lt_zero _)
  | i + 1, r + 1, outs, f, hi, h => by
    rw [loop_unanswered p t r outs f (loop_timeout_first h)] at h
    rw [← tail_getD]
    exact loop_timeout_only p t i r outs.tail _ (Nat.lt_of_succ_lt_succ hi) h

/-- `Timeout` is raised exactly when `retries` attempts in a row stay unanswered, and then after
    exactly `retries × timeout` and `retries` transmissions. -/
theorem C13_timeout_exact (packet : Bytes) (timeout retries : Nat) (outs : List Outcome) (hr : 1 ≤ retries) :
    ((sendUdp packet timeout retries outs).result = .error .timeout ↔
      ∀ i < retries, unanswered timeout (outs.getD i .none)) ∧
    ((sendUdp packet timeout retries outs).result = .error .timeout →
      (sendUdp packet timeout retries outs).elapsed = retries * timeout ∧
      (sendUdp packet timeout retries outs).sends.length = retries) := by
  obtain ⟨r, rfl⟩ := Nat.exists_eq_add_one.mpr hr
  have all := loop_all_unanswered packet timeout r outs ⟨[], 0, 0, 0, .error .unbound⟩
  have only h i hi := loop_timeout_only packet timeout i r outs ⟨[], 0, 0, 0, .error .unbound⟩ hi h
  exact ⟨⟨only, fun h => (all h).1⟩, fun h => by simpa [sendUdp] using (all (only h)).2⟩

/- non-vacuity -/
example : (sendUdp [1,2] 24 3 [.none, .reply 30 [9], .reply 10 [7]]).result = .ok [7] ∧
    (sendUdp [1,2] 24 3 [.none, .reply 30 [9], .reply 10 [7]]).elapsed = 58 ∧
    (sendUdp [1,2] 24 3 [.none, .reply 30 [9], .reply 10 [7]]).sends = [[1,2],[1,2],[1,2]] := ⟨rfl, rfl, rfl⟩
example : (sendUdp [1] 4 2 [.none, .lost 1 false]).result = .error .timeout := rfl

theorem loopCancel_spec (p : Bytes) (t c : Nat) (r : Nat) (outs : List Outcome) (f : Final) :
    ∃ n, n ≤ r ∧ Sent p n f (loopCancel p t c r outs f).1 := by
  induction r generalizing outs f with
  | zero => exact ⟨0, Nat.le_refl _, by simp [Sent, loopCancel]⟩
  | succ r ih =>
    rw [loopCancel]
    split
    · split <;> exact ⟨1, Nat.le_add_left 1 r, Sent.one ..⟩
    · split
      · exact ⟨1, Nat.le_add_left 1 r, Sent.one ..⟩
      · split
        · exact ⟨1, Nat.le_add_left 1 r, Sent.one ..⟩
        · obtain ⟨n, hn, h⟩ := ih outs.tail ⟨f.sends ++ [p], f.opened + 1, f.closed + 1, f.elapsed + t, f.result⟩
          exact ⟨n + 1, Nat.succ_le_succ hn, h.step⟩

/-- **Abandoned calls leave nothing behind.**  At whatever instant the caller gives up (its own
    `wait_for` deadline, `task.cancel()`), for every script of the network and every retry budget:
    every endpoint the call opened is closed, and what was transmitted until then is at most
    `retries` copies of the request. -/
theorem C13_cancel_no_socket_left (packet : Bytes) (timeout retries : Nat) (outs : List Outcome) (cancelAt : Nat) :
    (sendUdpCancel packet timeout retries outs cancelAt).1.opened = (sendUdpCancel packet timeout retries outs cancelAt).1.closed ∧
    (sendUdpCancel packet timeout retries outs cancelAt).1.sends.length ≤ retries ∧
    ∀ s ∈ (sendUdpCancel packet timeout retries outs cancelAt).1.sends, s = packet :=
  have ⟨_, hn, h⟩ := loopCancel_spec packet timeout cancelAt retries outs ⟨[], 0, 0, 0, .error .unbound⟩
  h.call hn

/-- `h` excludes every branch in which the deadline falls inside an attempt; the remaining branches are those of `loop` -/
theorem loopCancel_not_cancelled (p : Bytes) (t c : Nat) (r : Nat) (outs : List Outcome) (f : Final)
    (h : (loopCancel p t c r outs f).2 = false) : (loopCancel p t c r outs f).1 = loop p t r outs f := by
  induction r generalizing outs f with
  | zero => simp [loopCancel, loop]
  | succ r ih =>
    unfold loopCancel at h
    unfold loopCancel loop
    cases ha : attempt t (outs.head?.getD .none) with
    | some rd =>
      simp only [ha] at h ⊢
      by_cases hc : c < f.elapsed + rd.2
      · simp [hc] at h
      · simp only [hc, ↓reduceIte]
    | none =>
      simp only [ha] at h ⊢
      by_cases hc : c < f.elapsed + t
      · simp [hc] at h
      · simp only [hc, ↓reduceIte] at h ⊢
        by_cases hr : r = 0
        · simp only [hr, ↓reduceIte]
        · simp only [hr, ↓reduceIte] at h ⊢
          exact ih _ _ h

/-- a call that ends before its caller gives up is the call alone: same transmissions, same
    result at the same instant -/
theorem C13_cancel_late (packet : Bytes) (timeout retries : Nat) (outs : List Outcome) (cancelAt : Nat)
    (h : (sendUdpCancel packet timeout retries outs cancelAt).2 = false) :
    (sendUdpCancel packet timeout retries outs cancelAt).1 = sendUdp packet timeout retries outs :=
  loopCancel_not_cancelled packet timeout cancelAt retries outs _ h

/- non-vacuity: abandoned in the second attempt of three; ends by itself when the deadline is later -/
example : (sendUdpCancel [1] 4 3 [.none, .reply 2 [9]] 5).2 = true ∧ (sendUdpCancel [1] 4 3 [.none, .reply 2 [9]] 5).1.sends = [[1], [1]] ∧
    (sendUdpCancel [1] 4 3 [.none, .reply 2 [9]] 6).2 = false := by decide


/-- in `send_udp` every attempt's transport is closed in the `finally` of the `try` around `get_data`
    (shape of the code, generated) — why `Udp.loop` / `Udp.loopCancel` count one `closed` per `opened` -/
theorem C13_close_shape : Snmp.Gen.udpClosesInFinally = true := by decide

end Snmp.Props.C13
