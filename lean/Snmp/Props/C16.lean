/-
  C16 — table fetches: one row per index, every cell exactly once, both variants agree.
  Model: `Snmp.Table` (tablify as table/bulktable call it); the walk that feeds it is the
  single-root walk of C01/C02.
-/
import Snmp.Lemmas.TableLemmas
import Snmp.Lemmas.WalkAbs
import Snmp.Lemmas.SingleRoot
import Snmp.Props.C01
namespace Snmp.Props.C16
open Snmp Snmp.Table

/-- what a complete walk of `root` delivers: the agent's instances strictly below `root` -/
def tableOf (db : List VarBind) (root : Oid) : List VarBind :=
  db.filter fun e => root.isPrefixOf e.1 && e.1 != root

def SortedDb (db : List VarBind) : Prop := db.Pairwise (fun a b => a.1 < b.1)

/-- SMI guard: column numbers are ≥ 1 (a column numbered 0 would collide with the index key) -/
def ColsPositive (vbs : List VarBind) (n : Nat) : Prop :=
  ∀ vb ∈ vbs, ∀ col id, vb.1.drop n = col :: id → col ≠ 0

/-- One row per distinct index: for any bindings lying below the table entry, `tablify`
    succeeds, the rows have pairwise distinct indexes, there is a row for an index iff some
    binding carries that index suffix, and every row stores its complete (possibly
    multi-component) index under key `'0'`. -/
theorem C16_rows (vbs : List VarBind) (n : Nat) (hlong : ∀ vb ∈ vbs, n < vb.1.length)
    (hcol : ColsPositive vbs n) :
    ∃ final : Rows, fold n [] vbs = .ok final ∧ tablify vbs n = .ok (final.map (·.2)) ∧
      (final.map (·.1)).Nodup ∧
      (∀ id, id ∈ final.map (·.1) ↔ ∃ vb ∈ vbs, ∃ col, vb.1.drop n = col :: id) ∧
      (∀ id row, (id, row) ∈ final → lookup row 0 = some (.idx id)) := by
  rcases fold_ok_of_long n vbs [] hlong with ⟨final, hf⟩
  have hg := indexed_fold n vbs [] final indexed_nil hf hcol
  refine ⟨final, hf, by simp [tablify, hf, Except.map], hg.1, fun id => ?_, fun id row hmem => ?_⟩
  · rw [keys_fold n vbs [] final hf id]
    exact ⟨fun h => h.resolve_left (fun h => nomatch h), Or.inr⟩
  · have := hg.2 id (List.mem_map_of_mem (f := (·.1)) hmem)
    rwa [cellAt, lookup_of_mem_nodup _ id row hg.1 hmem] at this

/-- Every cell exactly once, nothing from elsewhere: each binding's value sits in the row of
    its index under its column number, and every value cell of the result is such a binding. -/
theorem C16_cells (vbs : List VarBind) (n : Nat) (final : Rows) (hf : fold n [] vbs = .ok final)
    (hd : (vbs.map (·.1.drop n)).Nodup) :
    (∀ vb ∈ vbs, ∀ col id, vb.1.drop n = col :: id → cellAt final id col = some (.val vb.2)) ∧
    (∀ id k v, cellAt final id k = some (.val v) → ∃ vb ∈ vbs, vb.1.drop n = k :: id ∧ vb.2 = v) := by
  refine ⟨cells_present n vbs [] final hf hd, ?_⟩
  intro id k v hc
  rcases cells_sound n vbs [] final id k v hf hc with h | h
  · cases h
  · exact h

theorem mem_tableOf {db : List VarBind} {root : Oid} {e : VarBind} :
    e ∈ tableOf db root ↔ e ∈ db ∧ root <+: e.1 ∧ e.1 ≠ root := by
  simp [tableOf, List.isPrefixOf_iff_prefix]

theorem drop_inj_of_prefix {root a b : Oid} (ha : root <+: a) (hb : root <+: b)
    (h : a.drop root.length = b.drop root.length) : a = b := by
  rw [← List.prefix_iff_eq_append.mp ha, ← List.prefix_iff_eq_append.mp hb, h]

theorem tableOf_addr {db : List VarBind} {entry : Oid} {e : VarBind} {col : Nat} {id : List Nat} :
    e ∈ tableOf db entry ∧ e.1.drop entry.length = col :: id ↔ e ∈ db ∧ e.1 = entry ++ col :: id := by
  constructor
  · rintro ⟨hm, hd⟩
    obtain ⟨hdb, ⟨t, ht⟩, _⟩ := mem_tableOf.mp hm
    rw [← ht, List.drop_left] at hd
    exact ⟨hdb, by rw [← ht, hd]⟩
  · rintro ⟨hdb, hc⟩
    refine ⟨mem_tableOf.mpr ⟨hdb, ⟨col :: id, hc.symm⟩, fun h => ?_⟩, by rw [hc, List.drop_left]⟩
    rw [h] at hc
    simpa using congrArg List.length hc

/-- The table the caller gets for a conformant agent: with the walk delivering the instances
    below the entry (C01/C02), there is exactly one row per index occurring in the agent's
    table, each cell of the agent's table is in its row under its column, and every cell of the
    result is a cell of the agent's table (nothing from outside the table). -/
theorem C16_table_of_db (db : List VarBind) (entry : Oid) (hs : SortedDb db)
    (hcol : ColsPositive (tableOf db entry) entry.length) :
    ∃ final : Rows, tablify (tableOf db entry) entry.length = .ok (final.map (·.2)) ∧
      (final.map (·.1)).Nodup ∧
      (∀ id, id ∈ final.map (·.1) ↔ ∃ e ∈ db, ∃ col, e.1 = entry ++ col :: id) ∧
      (∀ id row, (id, row) ∈ final → lookup row 0 = some (.idx id)) ∧
      (∀ e ∈ db, ∀ col id, e.1 = entry ++ col :: id → cellAt final id col = some (.val e.2)) ∧
      (∀ id k v, cellAt final id k = some (.val v) → ∃ e ∈ db, e.1 = entry ++ k :: id ∧ e.2 = v) := by
  have hlong : ∀ vb ∈ tableOf db entry, entry.length < vb.1.length := by
    intro vb hvb
    rcases mem_tableOf.mp hvb with ⟨_, hp, hne⟩
    exact Nat.lt_of_le_of_ne hp.length_le fun h => hne (hp.eq_of_length h).symm
  rcases C16_rows _ _ hlong hcol with ⟨final, hf, ht, hnd, hkeys, hidx⟩
  have hd : ((tableOf db entry).map (·.1.drop entry.length)).Nodup := by
    rw [List.nodup_iff_pairwise_ne, List.pairwise_map]
    refine (hs.sublist List.filter_sublist).imp_of_mem fun {a b} ha hb hlt heq => ?_
    rw [drop_inj_of_prefix (mem_tableOf.mp ha).2.1 (mem_tableOf.mp hb).2.1 heq] at hlt
    exact List.lt_irrefl _ hlt
  rcases C16_cells _ _ final hf hd with ⟨hpres, hsound⟩
  refine ⟨final, ht, hnd, fun id => ?_, hidx, fun e he col id hc => ?_, fun id k v hc => ?_⟩
  · rw [hkeys]
    simp only [← exists_and_left, tableOf_addr]
  · obtain ⟨h1, h2⟩ := tableOf_addr.mpr ⟨he, hc⟩
    exact hpres e h1 col id h2
  · obtain ⟨vb, hvb, h1, h2⟩ := hsound id k v hc
    obtain ⟨h3, h4⟩ := tableOf_addr.mp ⟨hvb, h1⟩
    exact ⟨vb, h3, h4, h2⟩

/-- `table(entry)` tablifies the walk of the entry with `len(entry)` base nodes, `bulktable(tbl)`
    the walk of the table OID with `len(tbl) + 1`.  For an SMI conceptual table (everything the
    agent holds below the table OID lies strictly below its entry arc `tbl.1`) both see the same
    instances and the same number of base nodes, hence return the same rows in the same order. -/
theorem C16_variants_agree (db : List VarBind) (tbl : Oid)
    (hsmi : ∀ e ∈ db, tbl <+: e.1 → e.1 ≠ tbl → (tbl ++ [1]) <+: e.1 ∧ e.1 ≠ tbl ++ [1]) :
    tableOf db tbl = tableOf db (tbl ++ [1]) ∧
    tablify (tableOf db tbl) (tbl.length + 1) = tablify (tableOf db (tbl ++ [1])) (tbl ++ [1]).length := by
  have h : tableOf db tbl = tableOf db (tbl ++ [1]) := by
    apply List.filter_congr
    intro e he
    rw [Bool.eq_iff_iff]
    simp only [Bool.and_eq_true, List.isPrefixOf_iff_prefix, bne_iff_ne, ne_eq]
    constructor
    · rintro ⟨h1, h2⟩; exact hsmi e he h1 h2
    · rintro ⟨h1, _⟩
      exact ⟨(List.prefix_append tbl [1]).trans h1, fun heq => absurd (heq ▸ h1).length_le (by simp)⟩
  exact ⟨h, by rw [h]; simp⟩

theorem takeWhile_eq_filter {α} (p : α → Bool) (l : List α)
    (h : l.Pairwise (fun x y => p y = true → p x = true)) : l.takeWhile p = l.filter p := by
  induction l with
  | nil => rfl
  | cons x l ih =>
    rw [List.pairwise_cons] at h
    by_cases hx : p x = true
    · rw [List.takeWhile_cons_of_pos hx, List.filter_cons_of_pos hx, ih h.2]
    · rw [List.takeWhile_cons_of_neg hx, List.filter_cons_of_neg hx]
      exact (List.filter_eq_nil_iff.mpr fun y hy hpy => hx (h.1 y hy hpy)).symm

theorem below_filter (root : Oid) (l : List Oid) (hs : WalkAbs.Sorted l) :
    (WalkAbs.above l root).takeWhile (inside root) = l.filter (fun o => root.isPrefixOf o && o != root) := by
  -- by convexity the subtree is an initial stretch of what lies above the root
  rw [takeWhile_eq_filter _ _ ((WalkAbs.above_sorted l hs root).imp_of_mem fun {x y} hx _ hxy hy =>
    (inside_iff root x).mpr (WalkAbs.convex root root x y (List.prefix_refl _) ((inside_iff root y).mp hy)
      (Std.le_of_lt (WalkAbs.mem_above.mp hx).2) (Std.le_of_lt hxy)))]
  unfold WalkAbs.above
  rw [List.filter_filter]
  refine List.filter_congr fun o _ => ?_
  show (root.isPrefixOf o && decide (root < o)) = _
  cases hp : root.isPrefixOf o with
  | false => rfl
  | true =>
    rw [Bool.true_and, Bool.true_and, Bool.eq_iff_iff, decide_eq_true_iff, bne_iff_ne]
    exact WalkAbs.lt_iff_ne_of_prefix (List.isPrefixOf_iff_prefix.mp hp)

theorem sortedDb_iff (db : List VarBind) : SortedDb db ↔ WalkAbs.Sorted (db.map (·.1)) := by
  unfold SortedDb WalkAbs.Sorted; rw [List.pairwise_map]

/-- Link to C01: the single-root GETNEXT walk (abstract loop, proved complete and ordered in
    C01) yields exactly the OIDs of `tableOf db root`, in database order. -/
theorem C16_walk_yields_table (db : List VarBind) (root : Oid) (hs : SortedDb db) :
    WalkAbs.walk1 (db.map (·.1)) root ((db.map (·.1)).length + 1) root = (tableOf db root).map (·.1) := by
  have hs' := (sortedDb_iff db).mp hs
  rw [Snmp.Props.C01.C01_abs_single_sorted (db.map (·.1)) root hs', below_filter root _ hs']
  rw [List.filter_map]
  rfl

theorem tableOf_sorted (db : List VarBind) (root : Oid) (hs : SortedDb db) :
    ((tableOf db root).map (·.1)).Pairwise (· < ·) := by
  rw [List.pairwise_map]
  exact List.Pairwise.filter _ hs

theorem sorted_ext {α} (key : α → Oid) (l1 l2 : List α) (h1 : (l1.map key).Pairwise (· < ·))
    (h2 : (l2.map key).Pairwise (· < ·)) (h : ∀ v, v ∈ l1 ↔ v ∈ l2) : l1 = l2 := by
  rw [List.pairwise_map] at h1 h2
  have nd : ∀ {l : List α}, l.Pairwise (fun a b => key a < key b) → l.Nodup := fun hl =>
    hl.imp fun {a b} hab (e : a = b) => absurd hab (e ▸ List.lt_irrefl _)
  exact ((List.perm_ext_iff_of_nodup (nd h1) (nd h2)).mpr h).eq_of_pairwise
    (fun _ _ _ _ hab hba => absurd hab (List.lt_asymm hba)) h1 h2

theorem yields_eq_tableOf (db : List VarBind) (root : Oid) (hs : SortedDb db) (hroot : ∀ e ∈ db, e.1 ≠ root)
    (r : Walk.Result)
    (hcomp : ∀ vb ∈ db, root <+: vb.1 → vb.1 ≠ root → vb ∈ r.yields)
    (hdb : ∀ vb ∈ r.yields, vb ∈ db)
    (hsound : ∀ y ∈ Walk.yieldOids r.events, root <+: y)
    (hasc : (Walk.yieldOids r.events).Pairwise (· < ·)) :
    r.yields = tableOf db root := by
  have hyo : Walk.yieldOids r.events = r.yields.map (·.1) := by rw [Walk.yieldOids_eq, Walk.yields_eq]
  refine sorted_ext (·.1) _ _ (hyo ▸ hasc) (tableOf_sorted db root hs) fun v => ⟨fun hv => ?_, fun hv => ?_⟩
  · exact mem_tableOf.mpr ⟨hdb v hv, hsound v.1 (hyo ▸ List.mem_map_of_mem (f := (·.1)) hv), hroot v (hdb v hv)⟩
  · obtain ⟨h1, h2, h3⟩ := mem_tableOf.mp hv
    exact hcomp v h1 h2 h3

/-- one root, any fetcher that is conformant (completeness) and ascending (order): the walk ends
    normally and yields exactly the agent's instances below the root, in database order -/
theorem walk_yields_table (fetch : Fetcher) (db : List VarBind) (root : Oid) (lenient : Bool) (fuel : Nat)
    (hs : SortedDb db) (hv : ∀ vb ∈ db, vb.2.isEom = false) (hroot : ∀ e ∈ db, e.1 ≠ root)
    (hc : Walk.ConformantFetch fetch db) (hfuel : db.length ≤ fuel) :
    let r := Walk.multiwalk fetch [root] lenient fuel
    r.outcome = .done ∧ r.yields = tableOf db root := by
  intro r
  have hpf : Walk.PrefixFree [root] := List.pairwise_singleton _ root
  have h := Walk.walk_complete fetch db [root] lenient fuel ((sortedDb_iff db).mp hs) hv hpf (List.cons_ne_nil _ _) hc hfuel
  refine ⟨h.1, yields_eq_tableOf db root hs hroot r (fun vb hvb hpre hne => h.2.1 vb hvb ⟨root, List.mem_singleton_self _, hpre, hne⟩)
    h.2.2 (fun y hy => ?_) (Walk.multiwalk_asc fetch (hc.ascending hv) root lenient fuel)⟩
  obtain ⟨r0, hr0, hpre⟩ := (Walk.multiwalk_sound fetch [root] lenient fuel).2 y hy
  exact List.mem_singleton.mp hr0 ▸ hpre

/-- **`table(entry)` on the Python-faithful model**: against the conformant agent of any sorted
    database, the GETNEXT walk of the entry ends normally and yields exactly the agent's instances
    below the entry — the same bindings, in database order. -/
theorem C16_getnext_yields (db : List VarBind) (pol : BulkPolicy) (entry : Oid) (lenient : Bool) (fuel : Nat)
    (hs : SortedDb db) (hv : ∀ vb ∈ db, vb.2.isEom = false) (hroot : ∀ e ∈ db, e.1 ≠ entry)
    (hfuel : db.length ≤ fuel) :
    let r := Walk.walkGetnext (Walk.exchangeOf (Agent.conformant db) db pol) [entry] lenient fuel
    r.outcome = .done ∧ r.yields = tableOf db entry :=
  walk_yields_table _ db entry lenient fuel hs hv hroot (Walk.cfetch_conformant db pol hv) hfuel

/-- **`bulktable(table)` on the Python-faithful model**: the same for the bulk walk, any repetition
    count, any truncation policy of the agent. -/
theorem C16_bulk_yields (db : List VarBind) (pol : BulkPolicy) (tbl : Oid) (size fuel : Nat)
    (hsize : 1 ≤ size) (hs : SortedDb db) (hv : ∀ vb ∈ db, vb.2.isEom = false) (hroot : ∀ e ∈ db, e.1 ≠ tbl)
    (hfuel : db.length ≤ fuel) :
    let r := Walk.walkBulk (Walk.exchangeOf (Agent.conformant db) db pol) size [tbl] fuel
    r.outcome = .done ∧ r.yields = tableOf db tbl :=
  walk_yields_table _ db tbl false fuel hs hv hroot
    (Walk.bulkFetcher_conformant _ db hv (Walk.exchange_conformantBulk db pol) size hsize) hfuel

/-- **Both fetch variants return the same rows** — as a theorem about the two API paths on the
    faithful model: `table(tbl.1)` (GETNEXT walk of the entry, `len(entry)` base nodes) and
    `bulktable(tbl)` (bulk walk of the table OID, `len(tbl)+1` base nodes) hand `tablify` the same
    bindings in the same order, so they return the same rows in the same order, for every SMI
    conceptual table, repetition count and truncation policy. -/
theorem C16_api_agree (db : List VarBind) (pol : BulkPolicy) (tbl : Oid) (size fuel : Nat) (lenient : Bool)
    (hsize : 1 ≤ size) (hs : SortedDb db) (hv : ∀ vb ∈ db, vb.2.isEom = false)
    (hno : ∀ e ∈ db, e.1 ≠ tbl)
    (hsmi : ∀ e ∈ db, tbl <+: e.1 → e.1 ≠ tbl → (tbl ++ [1]) <+: e.1 ∧ e.1 ≠ tbl ++ [1])
    (hfuel : db.length ≤ fuel) :
    let x := Walk.exchangeOf (Agent.conformant db) db pol
    tablify (Walk.walkGetnext x [tbl ++ [1]] lenient fuel).yields (tbl ++ [1]).length =
      tablify (Walk.walkBulk x size [tbl] fuel).yields (tbl.length + 1) := by
  intro x
  have hno1 : ∀ e ∈ db, e.1 ≠ tbl ++ [1] := by
    intro e he heq
    have hpre : tbl <+: e.1 := by rw [heq]; exact List.prefix_append _ _
    exact (hsmi e he hpre (hno e he)).2 heq
  have h1 := C16_getnext_yields db pol (tbl ++ [1]) lenient fuel hs hv hno1 hfuel
  have h2 := C16_bulk_yields db pol tbl size fuel hsize hs hv hno hfuel
  have h3 := C16_variants_agree db tbl hsmi
  rw [h1.2, h2.2]
  exact h3.2.symm

/- non-vacuity: a sparse two-column table with two-component indexes and neighbours -/
def exDb : List VarBind :=
  [([1,3,1,0], .int 9), ([1,3,2,1,1,5,1], .int 1), ([1,3,2,1,1,5,2], .int 2), ([1,3,2,1,2,5,1], .str [65]), ([1,3,3,0], .int 7)]
example : (tablify (tableOf exDb [1,3,2,1]) 4).toOption.map (·.length) = some 2 := by decide
example : ColsPositive (tableOf exDb [1,3,2,1]) 4 := by
  have : ∀ vb ∈ tableOf exDb [1,3,2,1], (vb.1.drop 4).head? ≠ some 0 := by decide
  exact fun vb hvb col id h e => this vb hvb (by rw [h, e]; rfl)

end Snmp.Props.C16
