/-
  C06 — every response value reaches the caller with the type and value that was sent.
  Impl side: the index-based x690 mirror (`decodeAt`, lazy nodes, `readNode`) with the registry
  generated from the working tree; spec side: `Snmp.Spec.readVal` on the same octets.
  Proved at the level of a single value TLV anywhere in a datagram, in every admissible definite
  length form (`C06_value_decode`), and for whole nested structures — binding lists, PDUs, message
  wrappers — in every mix of length forms (`C06_tree_decode`, `Lemmas/BerTree.lean`).
-/
import Snmp.Model.Agent
import Snmp.Lemmas.ReencLemmas
import Snmp.Lemmas.SpecPdu
import Snmp.Props.C04
import Snmp.Lemmas.OpsLemmas
namespace Snmp.Props.C06
open Snmp Snmp.Ber

/-- the value a decoded tree stands for, by registered class -/
def treeVal : Tree → Option Val
  | .int "Integer" v => some (.int v)
  | .int "Counter" v => some (.counter32 v)
  | .int "Gauge" v => some (.gauge32 v)
  | .int "TimeTicks" v => some (.ticks v)
  | .int "Counter64" v => some (.counter64 v)
  | .int "NsapAddress" v => some (.nsap v)
  | .str "OctetString" b => some (.str b)
  | .str "Opaque" b => some (.opaque b)
  | .str "IpAddress" b => some (.ip b)
  | .null => some .null
  | .oid o => some (.oid o)
  | .marker "NoSuchObject" => some .noSuchObject
  | .marker "NoSuchInstance" => some .noSuchInstance
  | .marker "EndOfMibView" => some .endOfMibView
  | _ => none

/-- `treeVal` is the glue's `Glue.valOfTree` without the row for unregistered classes (`UnknownType`);
    on the leaf of a value the specification reader knows, both give that value
    (cf. `Glue.valOfTree_treeOfVal`) -/
theorem treeVal_treeOfVal {v : Val} (h : ∀ tag b, v ≠ .unknown tag b) : treeVal (Glue.treeOfVal v) = some v := by
  cases v with
  | unknown tag b => exact absurd rfl (h tag b)
  | _ => rfl

/-- application types and exception markers are registered with the right class, nature and
    signedness (generated registry) -/
theorem C06_registry :
    lookup 2 = ⟨"Integer", "int", true⟩ ∧ lookup 4 = ⟨"OctetString", "str", false⟩ ∧
    lookup 5 = ⟨"Null", "null", false⟩ ∧ lookup 6 = ⟨"ObjectIdentifier", "oid", false⟩ ∧
    lookup 64 = ⟨"IpAddress", "ip", false⟩ ∧ lookup 65 = ⟨"Counter", "int", false⟩ ∧
    lookup 66 = ⟨"Gauge", "int", false⟩ ∧ lookup 67 = ⟨"TimeTicks", "int", false⟩ ∧
    lookup 68 = ⟨"Opaque", "str", false⟩ ∧ lookup 69 = ⟨"NsapAddress", "int", true⟩ ∧
    lookup 70 = ⟨"Counter64", "int", false⟩ ∧ lookup 128 = ⟨"NoSuchObject", "marker", false⟩ ∧
    lookup 129 = ⟨"NoSuchInstance", "marker", false⟩ ∧ lookup 130 = ⟨"EndOfMibView", "marker", false⟩ ∧
    lookup 48 = ⟨"Sequence", "seq", false⟩ ∧ lookup 162 = ⟨"GetResponse", "pdu", false⟩ ∧
    lookup 168 = ⟨"Report", "pdu", false⟩ := registry_rows

/-- Counter32 / Gauge32 / TimeTicks / Counter64 content is read unsigned whatever its leading bit:
    the decoded value is the plain big-endian number and never negative. -/
theorem C06_unsigned (bs : Bytes) : intDecode false bs = (fromBE bs : Int) ∧ 0 ≤ intDecode false bs := by
  cases bs with
  | nil => simp [intDecode, fromBE]
  | cons b rest => simp [intDecode]

/-- the conditions under which the library and the RFC reading of a value TLV coincide: OID
    content starts with an octet below 120 (arc0 ≤ 2, arc1 < 40 — what x690 can unpack), and
    unsigned application integers are proper non-negative INTEGER encodings -/
def InDomain (t : Nat) (c : Bytes) : Prop :=
  (t = 6 → ∀ d0 rest, c = d0 :: rest → d0 < 120) ∧
  ((t = 65 ∨ t = 66 ∨ t = 67 ∨ t = 70) → ∀ b rest, c = b :: rest → b < 128)

/-- the property's `InDomain` and the lemmas' `Glue.LeafDom` are one predicate; this is where proofs change over -/
theorem inDomain_eq : InDomain = Glue.LeafDom := rfl

/-- Every well-formed value — INTEGER, OCTET STRING, NULL, OBJECT IDENTIFIER, IpAddress,
    Counter32, Gauge32, TimeTicks, Opaque, Counter64, the three exception markers — written in
    ANY admissible definite length form (minimal, or long form with 1..126 length octets, also
    non-minimal) anywhere in a datagram, is decoded to the registered class with exactly the
    value the specification reader reads from the same octets; and the next TLV starts right
    behind it. -/
theorem C06_value_decode (f : LenForm) (t : Nat) (c pre rest : Bytes) (v : Val)
    (hf : f.ok c.length) (hspec : Spec.readVal t c = some v) (hdom : InDomain t c) (fuel depth : Nat) :
    ∃ n, decodeAt (pre ++ Spec.tlv f t c ++ rest) pre.length = .ok (n, pre.length + (Spec.tlv f t c).length) ∧
      (readNode (pre ++ Spec.tlv f t c ++ rest) fuel (depth + 1) n).toOption.bind treeVal = some v := by
  -- a special case of `C06_tree_decode`: the TLV is a `Glue.WritesVal`
  obtain ⟨hwf, htree⟩ := Glue.writesVal_read ⟨f, t, c, rfl, hf, hspec, inDomain_eq ▸ hdom⟩
  obtain ⟨hdec, hread⟩ := decode_read_at (.prim f t c) hwf (At.mk pre (Spec.tlv f t c) rest) fuel (depth + 1)
    (Nat.zero_le _) (Nat.le_add_left 1 depth)
  refine ⟨_, hdec, ?_⟩
  rw [hread, htree]
  exact treeVal_treeOfVal (Glue.readVal_tag hspec).2

/-- **Whole structures, in every mix of definite length forms.**  `e` is any tree of TLVs as an
    agent may write it: at every node its own length form (minimal, or long with 1..126 length
    octets, also non-minimal); primitive nodes of any registered or unknown class; constructed
    nodes of a class registered as a sequence (binding lists, bindings, message wrappers, header,
    USM parameters, scoped PDU) with any number of items; PDU nodes (request-id, two integers, a
    binding list of two-item bindings — what `PDU.decode_raw` reads at absolute indices); any
    nesting.  Placed anywhere in a datagram (`pre`, `rest` arbitrary), the x690 mirror — `decode` at
    an absolute index, lazy slices, `Sequence.decode_raw`'s `while next_pos < end` loop, the PDU
    reader — finds exactly that node (class from the generated registry), the next TLV right behind
    it, and reads it out to the tree of the same shape with leaf values as in `C06_value_decode`.
    `fuel` / `depth` only have to cover the longest item list / the nesting. -/
theorem C06_tree_decode (e : Enc) (h : e.WF) (pre rest : Bytes) (fuel depth : Nat)
    (hw : e.width ≤ fuel) (hd : e.depth ≤ depth) :
    ∃ n, decodeAt (pre ++ e.bytes ++ rest) pre.length = .ok (n, pre.length + e.bytes.length) ∧
      n.entry = lookup e.tag ∧
      readNode (pre ++ e.bytes ++ rest) fuel depth n = e.tree :=
  have h := decode_read_at e h (At.mk pre e.bytes rest) fuel depth hw hd
  ⟨_, h.1, entry_rawOf e _, h.2⟩

/-- … in particular a datagram that consists of one such structure decodes to its tree -/
theorem C06_datagram_decode (e : Enc) (h : e.WF) (fuel depth : Nat) (hw : e.width ≤ fuel) (hd : e.depth ≤ depth) :
    decodeTree e.bytes fuel depth = e.tree :=
  decodeTree_enc e h fuel depth hw hd

/-- **A whole response message reaches the operation logic as the record the agent wrote.**
    `Glue.WritesMsg e m cls`: `e` is a community message — wrapper, version, community, a PDU of class
    `cls` with request id, error fields and bindings `m.pdu` — in which every TLV has its own definite
    length form and every value TLV is one the specification reads as the value in `m`.  Then the
    client's path — x690 mirror (`decodeTree`), `proto_version, community, pdu = message`,
    `PDU.decode_raw`, `VarBind(oid, value)` per binding (`Glue.msgOfBytes`) — yields exactly `m` and
    `cls`; hence every result the operation model (`Snmp.Ops`, C04/C07/C08) computes from the record
    is the result for the octets on the wire. -/
theorem C06_message_readback (e : Enc) (m : Ops.RespMsg) (cls : String) (h : Glue.WritesMsg e m cls)
    (fuel depth : Nat) (hw : e.width ≤ fuel) (hd : e.depth ≤ depth) :
    Glue.msgOfBytes e.bytes fuel depth = some (m, cls) :=
  Glue.msgOfBytes_writes h fuel depth hw hd

/-- the record the client reads from a datagram, as the network's answer to an operation -/
def fromWire (data : Bytes) (fuel depth : Nat) : Except Err Ops.RespMsg :=
  match Glue.msgOfBytes data fuel depth with
  | some (m, _) => .ok m
  | none => .error (.other "decode")

theorem fromWire_writes {e : Enc} {m : Ops.RespMsg} {cls : String} (h : Glue.WritesMsg e m cls)
    (fuel depth : Nat) (hw : e.width ≤ fuel) (hd : e.depth ≤ depth) : fromWire e.bytes fuel depth = .ok m := by
  unfold fromWire
  rw [C06_message_readback e m cls h fuel depth hw hd]

/-- **From the octets on the wire to the caller's result**, v2c multi-GET against a conformant
    agent: the agent holds `db`, answers the request for `oids` with the record `m` (its bindings
    are `Agent.getResp db oids`, it echoes the request id, version 1, the client's community, no
    error) and writes that record in BER with any mix of definite length forms (`WritesMsg`).  The
    client — decoder, unpacking glue, wrapper checks, id check, `multiget` — returns exactly the
    agent's values for exactly the requested OIDs, in order. -/
theorem C06_multiget_from_wire (db : List VarBind) (oids : List Oid) (community : Bytes) (rid : Int)
    (e : Enc) (m : Ops.RespMsg) (cls : String) (hw : Glue.WritesMsg e m cls)
    (hver : m.version = 1) (hcom : m.community = community) (hrid : m.pdu.requestId = rid)
    (hes : m.pdu.errorStatus = 0) (hvb : m.pdu.varbinds = Agent.getResp db oids)
    (fuel depth : Nat) (hwd : e.width ≤ fuel) (hd : e.depth ≤ depth) :
    (Ops.multiget (.v2c community) oids).result rid (fromWire e.bytes fuel depth)
      = .ok ((Agent.getResp db oids).map (·.2)) := by
  rw [fromWire_writes hw fuel depth hwd hd]
  exact C04.C04_multiget_conformant _ rid m db oids
    (Ops.recv_msg_ok_iff.mpr ⟨⟨hver, hcom⟩, hes, hrid, rfl⟩) hvb

/-- the OID part of the value statement without the domain restriction of `InDomain` -/
def C06_oid_statement : Prop :=
  ∀ (c : Bytes) (o : Oid), Spec.readOid c = some o → oidDecode c = .ok o

/-- It does not hold: x690 splits the first sub-identifier with `// 40`, `% 40` whatever its size;
    the content `78 01` (2.40.1) is decoded to 3.0.1.  Known finding of the dependency
    (C06-x690-oid-second-arc), replayed on the implementation by the suite `second-arc`; the proved
    part is `C06_value_decode` under `InDomain` (first content octet below 120). -/
theorem C06_oid_counterexample : ¬ C06_oid_statement := by
  intro h
  have h1 := h [120, 1] [2, 40, 1] (by decide)
  cases h1

/-- Re-encoding a decoded primitive value (`bytes(obj)`: received content octets re-used, length
    re-encoded by `encode_length`) is read by the specification reader as the same tag and
    content — the same value, possibly in another length form. -/
theorem C06_reencode_value (t : Nat) (c rest : Bytes) (hc : Spec.Small c.length) :
    Spec.readTLV (Ber.tlv t c ++ rest) = some (t, c, rest) := Spec.readTLV_tlv t c rest hc

/- non-vacuity: a Gauge32 with its top bit set, written with a 3-octet long-form length -/
example : LenForm.ok (.long 3) 4 ∧ Spec.readVal 66 [0, 255, 255, 255] = some (.gauge32 16777215) ∧
    InDomain 66 [0, 255, 255, 255] := by
  refine ⟨by simp [LenForm.ok], by decide, ?_⟩
  constructor
  · intro h; cases h
  · intro _ b rest h; cases h; omega

/- non-vacuity: a binding list with two bindings, mixed length forms (the list in a 2-octet long
   form, the second binding in a non-minimal 3-octet form), a Counter64 and an endOfMibView -/
example :
    let vb1 := Enc.cons .minimal 48 [.prim .minimal 6 [43, 6, 1, 2, 1, 1, 3, 0], .prim (.long 1) 70 [1, 0, 0, 0, 0, 0, 0, 0, 0]]
    let vb2 := Enc.cons (.long 3) 48 [.prim .minimal 6 [43, 6, 1, 2, 1, 1, 4, 0], .prim .minimal 130 []]
    let e := Enc.cons (.long 2) 48 [vb1, vb2]
    e.WF ∧ e.width = 2 ∧ e.depth = 3 ∧
    e.tree = .ok (.seq "Sequence" [
      .seq "Sequence" [.oid [1, 3, 6, 1, 2, 1, 1, 3, 0], .int "Counter64" 18446744073709551616],
      .seq "Sequence" [.oid [1, 3, 6, 1, 2, 1, 1, 4, 0], .marker "EndOfMibView"]]) := by
  refine ⟨?_, by decide, by decide, ?_⟩
  · simp [Enc.WF, Enc.WFL, Enc.bytesL, Enc.bytes, Spec.tlv, specLength, LenForm.ok, toBE, lookup_seq, lookup_oid,
      lookup_counter64, lookup_endOfMibView, Gen.noDefaultCtor]
  · simp only [Enc.tree, Enc.treeL, lookup_seq, lookup_oid, lookup_counter64, lookup_endOfMibView]
    rfl

/- non-vacuity: a whole v2c response message — wrapper, version, community, a GetResponse PDU in
   a non-minimal long form with request-id 2^31-1, and one binding carrying a Gauge32 above 2^31 -/
example :
    let vb := Enc.cons .minimal 48 [.prim .minimal 6 [43, 6, 1, 2, 1, 1, 7, 0], .prim .minimal 66 [0, 255, 255, 255, 255]]
    let pdu := Enc.pdu (.long 2) 162 [.prim .minimal 2 [127, 255, 255, 255], .prim .minimal 2 [0], .prim (.long 1) 2 [0],
      .cons .minimal 48 [vb]]
    let e := Enc.cons .minimal 48 [.prim .minimal 2 [1], .prim .minimal 4 [112, 117, 98], pdu]
    e.WF ∧
    e.tree = .ok (.seq "Sequence" [.int "Integer" 1, .str "OctetString" [112, 117, 98],
      .seq "GetResponse" [.int "Integer" 2147483647, .int "Integer" 0, .int "Integer" 0,
        .seq "Sequence" [.seq "Sequence" [.oid [1, 3, 6, 1, 2, 1, 1, 7, 0], .int "Gauge" 4294967295]]]]) := by
  constructor
  · simp [Enc.WF, Enc.WFL, Enc.bytesL, Enc.bytes, Spec.tlv, specLength, LenForm.ok, toBE, lookup_seq, lookup_int, lookup_str,
      lookup_oid, lookup_gauge, lookup_getResponse, pduShape, Enc.isIntPrim, Enc.isBindList, Enc.isPair,
      Gen.noDefaultCtor]
  · simp only [Enc.tree, Enc.treeL, lookup_seq, lookup_int, lookup_str, lookup_oid, lookup_gauge, lookup_getResponse]
    rfl

open Snmp.V3Glue in
/-- **Security-parameter block.**  `bytes(USMSecurityParameters.decode(block))` for a block whose
    seven TLVs are in any admissible length forms is the block of the same six values in the forms
    `encode_length` writes, and decoding that yields the same six values again. -/
theorem C06_reencode_usm (f : LenForm) (F : ParamForms) (p : UsmParams.Params) (boots time : Bytes)
    (hF : F.ok p boots time) (hf : f.ok (rawBytes (paramItems F p boots time)).length)
    (hb : p.boots = intDecode true boots) (ht : p.time = intDecode true time) (hs : Reenc.SmallParams p)
    (fuel : Nat) (hfuel : 5 ≤ fuel) :
    Reenc.reencUsm (Spec.tlv f 48 (rawBytes (paramItems F p boots time))) fuel
        = .ok (encodeUsmParams p.engineId p.boots p.time p.user p.auth p.priv) ∧
    UsmParams.ofBytes (encodeUsmParams p.engineId p.boots p.time p.user p.auth p.priv) fuel = .ok p := by
  constructor
  · unfold Reenc.reencUsm
    rw [params_wire f F p boots time hF hf hb ht fuel hfuel]
  · -- what was written is a block in the forms of `normForms`, each admissible for a length that fits a datagram
    rw [Reenc.encodeUsm_eq]
    exact params_wire _ (Reenc.normForms p) p (intEncode p.boots) (intEncode p.time) (Reenc.normForms_ok hs)
      (Reenc.formOf_ok _ hs.2.2.2.2.2.2) (intDecode_intEncode p.boots).symm (intDecode_intEncode p.time).symm fuel hfuel

/-- **Scoped PDU.**  `bytes(ScopedPDU.decode(data))` for a scoped PDU in any admissible length forms
    (anything may follow it): the same three TLVs — contextEngineID and contextName as OCTET STRINGs,
    the PDU under its own identifier octet with the content octets received — each under the length
    octets `encode_length` writes; the strict reader takes that apart into exactly these three. -/
theorem C06_reencode_scoped (f fe fn : LenForm) (e nm : Bytes) (pdu : RawTlv) (trailing : Bytes) (fuel : Nat)
    (hf : f.ok (rawBytes (Reenc.scopedItems fe fn e nm pdu)).length) (hfe : fe.ok e.length) (hfn : fn.ok nm.length)
    (hpdu : pdu.ok) (hpt : tagOf (lookup pdu.t).name = pdu.t) (hpk : (lookup pdu.t).kind ≠ "null") (hpc : pdu.c ≠ [])
    (hfuel : 2 ≤ fuel) (hs : Spec.Small e.length ∧ Spec.Small nm.length ∧ Spec.Small pdu.c.length ∧
      Spec.Small (rawBytes [Reenc.norm 4 e, Reenc.norm 4 nm, Reenc.norm pdu.t pdu.c]).length) :
    Reenc.reencScoped (Spec.tlv f 48 (rawBytes (Reenc.scopedItems fe fn e nm pdu)) ++ trailing) fuel =
      .ok (Ber.tlv 48 (rawBytes [Reenc.norm 4 e, Reenc.norm 4 nm, Reenc.norm pdu.t pdu.c])) ∧
    Spec.readTLV (Ber.tlv 48 (rawBytes [Reenc.norm 4 e, Reenc.norm 4 nm, Reenc.norm pdu.t pdu.c]))
      = some (48, rawBytes [Reenc.norm 4 e, Reenc.norm 4 nm, Reenc.norm pdu.t pdu.c], []) ∧
    Spec.readSeq (rawBytes [Reenc.norm 4 e, Reenc.norm 4 nm, Reenc.norm pdu.t pdu.c]) = some [(4, e), (4, nm), (pdu.t, pdu.c)] := by
  refine ⟨?_, ?_, ?_⟩
  · have hat := At.whole (Spec.tlv f 48 (rawBytes (Reenc.scopedItems fe fn e nm pdu))) trailing
    simp only [Reenc.reencScoped, decodeAt_at hat (V3Glue.tSeq_ok hf), nodeAtLen_entry, V3Glue.isInstance_seq,
      Bool.not_true, Bool.false_eq_true, ↓reduceIte]
    exact Reenc.scopedBytes_at hat hfe hfn hpdu hpt hpk hpc hfuel
  · simpa using Spec.readTLV_tlv 48 (rawBytes [Reenc.norm 4 e, Reenc.norm 4 nm, Reenc.norm pdu.t pdu.c]) [] hs.2.2.2
  · exact Spec.readSeq_norm [(4, e), (4, nm), (pdu.t, pdu.c)] (by simpa using ⟨hs.1, hs.2.1, hs.2.2.1⟩)

open Snmp.V3Glue in
/-- **SNMPv3 message, encrypted payload.**  `bytes(Message.decode(data))` for every well-formed
    message with the priv flag set — any admissible length form at each TLV of the wrapper, anything
    behind the message — is the message (`v3wire`) with the same msgVersion content, the header
    fields re-written from their values, the security-parameter octets as received and the same
    ciphertext, every level under the length octets `encode_length` writes. -/
theorem C06_reencode_message_encrypted (G : MsgForms) (F : ParamForms) (h : HdrC) (p : UsmParams.Params) (boots time : Bytes)
    (fpl : LenForm) (cipher trailing : Bytes) (fuel : Nat)
    (hok : G.ok F h p boots time (tStr fpl cipher)) (hpriv : fromBE h.flg / 2 % 2 = 1) (hfuel : 5 ≤ fuel) :
    Reenc.reencMsg (v3wire G F h p boots time (tStr fpl cipher) trailing) fuel =
      .ok (v3wire (Reenc.normMsgForms G F h p boots time (Reenc.norm 4 cipher)) F (Reenc.normHdr h) p boots time
            (Reenc.norm 4 cipher) []) := by
  have hat := wire_at G F h p boots time (tStr fpl cipher) trailing
  obtain ⟨i, hn, hpl⟩ := plNode_at hat
  rw [← Reenc.assemble_eq_wire, Reenc.norm_bytes]
  refine Reenc.reencMsg_at hat hok ?_ (by omega)
  rw [if_pos (by simp [hpriv]), hn]
  exact Reenc.objBytes_str hpl.nodeOf

open Snmp.V3Glue in
/-- **SNMPv3 message, plain payload**: as above; msgData becomes a fresh SEQUENCE around
    contextEngineID, contextName and the PDU with the content octets received. -/
theorem C06_reencode_message_plain (G : MsgForms) (F : ParamForms) (h : HdrC) (p : UsmParams.Params) (boots time : Bytes)
    (fpl fe fn : LenForm) (e nm : Bytes) (pdu : RawTlv) (trailing : Bytes) (fuel : Nat)
    (hok : G.ok F h p boots time (tSeq fpl (rawBytes (Reenc.scopedItems fe fn e nm pdu))))
    (hplain : fromBE h.flg / 2 % 2 = 0) (hfe : fe.ok e.length) (hfn : fn.ok nm.length)
    (hpdu : pdu.ok) (hpt : tagOf (lookup pdu.t).name = pdu.t) (hpk : (lookup pdu.t).kind ≠ "null") (hpc : pdu.c ≠ [])
    (hfuel : 5 ≤ fuel) :
    Reenc.reencMsg (v3wire G F h p boots time (tSeq fpl (rawBytes (Reenc.scopedItems fe fn e nm pdu))) trailing) fuel =
      .ok (v3wire (Reenc.normMsgForms G F h p boots time (Reenc.norm 48 (rawBytes [Reenc.norm 4 e, Reenc.norm 4 nm, Reenc.norm pdu.t pdu.c])))
            F (Reenc.normHdr h) p boots time (Reenc.norm 48 (rawBytes [Reenc.norm 4 e, Reenc.norm 4 nm, Reenc.norm pdu.t pdu.c])) []) := by
  have hat := wire_at G F h p boots time (tSeq fpl (rawBytes (Reenc.scopedItems fe fn e nm pdu))) trailing
  obtain ⟨i, hn, hpl⟩ := plNode_at hat
  rw [← Reenc.assemble_eq_wire, Reenc.norm_bytes]
  refine Reenc.reencMsg_at hat hok ?_ (by omega)
  rw [if_neg (by simp [hplain]), hn]
  exact Reenc.scopedBytes_at hpl hfe hfn hpdu hpt hpk hpc (by omega)

open Snmp.V3Glue in
/-- **… of the same content.**  The re-encoding is itself a well-formed message, and taking it apart
    (`Message.decode` + `USMSecurityParameters.decode`) gives msgID, msgMaxSize, msgSecurityModel and
    the six USM parameters with the values of the message received, the flags reduced to their three
    defined bits (`flagsNorm f = f` for every `f < 8`), and msgData as `payloadOf` reads it. -/
theorem C06_reencoded_fields (G : MsgForms) (F : ParamForms) (h : HdrC) (p : UsmParams.Params) (boots time : Bytes)
    (pl' : RawTlv) (fuel : Nat) (dt : Nat) (dc : Bytes)
    (hs : Reenc.SmallMsg G F h p boots time pl') (hsi : G.fsi.ok (rawBytes (paramItems F p boots time)).length) (hpl : pl'.ok)
    (hF : F.ok p boots time) (hb : p.boots = intDecode true boots) (ht : p.time = intDecode true time)
    (hpay : payloadOf (v3wire (Reenc.normMsgForms G F h p boots time pl') F (Reenc.normHdr h) p boots time pl' [])
      (Reenc.flagsNorm (fromBE h.flg)) (plNode (Reenc.normMsgForms G F h p boots time pl') F (Reenc.normHdr h) p boots time pl') fuel = .ok (dt, dc))
    (hfuel : 5 ≤ fuel) :
    v3OfBytes (v3wire (Reenc.normMsgForms G F h p boots time pl') F (Reenc.normHdr h) p boots time pl' []) fuel =
      .ok ⟨intDecode true h.mid, intDecode true h.mms, Reenc.flagsNorm (fromBE h.flg), intDecode true h.mdl,
           p.engineId, p.boots, p.time, p.user, p.auth, p.priv, dt, dc⟩ ∧
    (fromBE h.flg < 8 → Reenc.flagsNorm (fromBE h.flg) = fromBE h.flg) := by
  obtain ⟨v1, v2, v3, v4⟩ := Reenc.normHdr_values h
  refine ⟨?_, Reenc.flagsNorm_small _⟩
  rw [v3OfBytes_at (wire_at _ _ _ _ _ _ _ _) (Reenc.normMsgForms_ok G F h p boots time pl' hs hsi hpl) hF hb ht (by rw [v4]; exact hpay) hfuel,
    v1, v2, v3, v4]

/- non-vacuity: a scoped PDU with a GetResponse, contextEngineID in a 2-octet long form -/
example : let pdu : RawTlv := ⟨.minimal, 162, [2, 1, 1, 2, 1, 0, 2, 1, 0, 48, 0]⟩
    pdu.ok ∧ tagOf (lookup pdu.t).name = pdu.t ∧ (lookup pdu.t).kind ≠ "null" ∧ pdu.c ≠ [] ∧ LenForm.ok (.long 2) 3 := by
  simp only [RawTlv.ok, LenForm.ok, lookup_getResponse]
  decide

/- non-vacuity: the re-encoding function on a concrete scoped PDU written with long-form length octets (`81 0b`, `81 05`)
   runs to a result, with the short forms `encode_length` writes -/
example : Reenc.reencScoped [48, 129, 11, 4, 0, 4, 0, 162, 129, 5, 2, 1, 1, 2, 0] 20 =
    .ok [48, 11, 4, 0, 4, 0, 162, 5, 2, 1, 1, 2, 0] := Except.eq_ok_of_toOption (by decide +kernel)

/-- **SNMPv3: the PDU inside the scoped PDU.**  The model of the v3 path hands msgData — taken apart
    by the library glue into context engine id, context name and the PDU item (`V3Glue.payloadOf`,
    `C10_payload_plain`) — to the strict RFC reader (`Usm.extractScoped`), while the code reads the PDU
    through `PDU.decode_raw`.  For EVERY PDU an agent writes (`Glue.WritesPdu`: any admissible length
    form at every TLV, any bindings, every value one the specification reads as intended) with the
    standard identifier octets for the binding list and the bindings, both readings give the same
    record: the x690 mirror + glue (`pduOfTree`) yield class and content `(cls, p)`, and the strict
    reader finds in the payload exactly `⟨e, nm, ⟨tag, p.requestId, p.errorStatus, p.errorIndex,
    p.varbinds⟩⟩` — so the results of C04 / C07 / C08 for SNMPv3 are results for the octets on the wire. -/
theorem C06_v3_pdu_readback (ep : Enc) (cls : String) (p : Ops.PduResp) (h : Glue.WritesPdu ep cls p) (hstd : Glue.StdPdu ep)
    (e nm : Bytes) (hs : Spec.Small e.length ∧ Spec.Small nm.length ∧ Spec.Small (Glue.rawOf ep).c.length) :
    (ep.WF ∧ ∃ tr, ep.tree = .ok tr ∧ Glue.pduOfTree tr = some (cls, p)) ∧
    Spec.readScoped (Ber.tlv 4 e ++ Ber.tlv 4 nm ++ Ber.tlv (Glue.rawOf ep).t (Glue.rawOf ep).c) =
      some ⟨e, nm, ⟨(Glue.rawOf ep).t, p.requestId, p.errorStatus, p.errorIndex, p.varbinds⟩⟩ := by
  refine ⟨Glue.writesPdu_read h, ?_⟩
  have hseq := Spec.readSeq_concat [(4, e), (4, nm), ((Glue.rawOf ep).t, (Glue.rawOf ep).c)] (by simpa using hs)
  simp only [List.map_cons, List.map_nil, List.flatten_cons, List.flatten_nil, List.append_nil, ← List.append_assoc] at hseq
  unfold Spec.readScoped
  simp only [hseq, Glue.writesPdu_spec h hstd, bind, Option.bind, pure]

/- non-vacuity: a GetResponse with one binding: standard identifier octets, both readings agree -/
example :
    let vb := Enc.cons .minimal 48 [.prim .minimal 6 [43, 6, 1, 2, 1, 1, 7, 0], .prim .minimal 2 [72]]
    let ep := Enc.pdu .minimal 162 [.prim .minimal 2 [1], .prim .minimal 2 [0], .prim .minimal 2 [0], .cons .minimal 48 [vb]]
    Glue.StdPdu ep ∧ ep.tree = .ok (.seq "GetResponse" [.int "Integer" 1, .int "Integer" 0, .int "Integer" 0,
      .seq "Sequence" [.seq "Sequence" [.oid [1, 3, 6, 1, 2, 1, 1, 7, 0], .int "Integer" 72]]]) ∧
    Spec.readPdu 162 (Glue.rawOf ep).c = some ⟨162, 1, 0, 0, [([1, 3, 6, 1, 2, 1, 1, 7, 0], .int 72)]⟩ := by
  refine ⟨⟨rfl, List.forall_mem_singleton.mpr rfl⟩, ?_, rfl⟩
  simp only [Enc.tree, Enc.treeL, lookup_seq, lookup_int, lookup_oid, lookup_getResponse]
  rfl

end Snmp.Props.C06
