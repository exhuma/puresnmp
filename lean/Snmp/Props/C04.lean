/-
  C04 — GET / GETNEXT / SET / GETBULK results are exactly the agent's answers, in order.
  Property theorems over `Snmp.Ops` (decision logic stated outright) and their composition with
  the conformant agent of `Snmp.Agent`.  The hypothesis `recv … = .ok resp` that every theorem carries is what
  `Ops.recv_msg_ok_iff` (Lemmas/OpsLemmas.lean) characterises.
-/
import Snmp.Model.Ops
import Snmp.Model.Agent
namespace Snmp.Props.C04
open Snmp Snmp.Ops

/-- multi-get: the values of the response bindings, in response (= request) order, duplicates
    and exception markers kept; a response with another number of bindings is refused. -/
theorem C04_multiget (proto : Proto) (rid : Int) (m : RespMsg) (resp : PduResp) (oids : List Oid)
    (h : recv proto rid (.ok m) = .ok resp) :
    (multiget proto oids).result rid (.ok m) =
      if resp.varbinds.length = oids.length then .ok (resp.varbinds.map (·.2)) else .error .snmpError := by
  -- the code tests `≠` and raises first: `ite_not` turns the branches round
  simp only [multiget, bind, Except.bind, h, List.length_map, ne_eq, ite_not, pure, Except.pure, throw, throwThe,
    MonadExceptOf.throw]

/-- against a conformant agent: exactly the agent's values for exactly the requested OIDs -/
theorem C04_multiget_conformant (proto : Proto) (rid : Int) (m : RespMsg) (db : List VarBind)
    (oids : List Oid) (h : recv proto rid (.ok m) = .ok m.pdu)
    (ha : m.pdu.varbinds = Agent.getResp db oids) :
    (multiget proto oids).result rid (.ok m) = .ok ((Agent.getResp db oids).map (·.2)) := by
  rw [C04_multiget proto rid m m.pdu oids h, ha]
  exact if_pos (List.length_map ..)

/-- single get of a missing object raises NoSuchOID instead of returning the placeholder -/
theorem C04_get_missing (proto : Proto) (rid : Int) (m : RespMsg) (oid o : Oid) (v : Val)
    (h : recv proto rid (.ok m) = .ok m.pdu) (hv : m.pdu.varbinds = [(o, v)]) (hm : v.isMissing = true) :
    (Ops.get proto oid).result rid (.ok m) = .error (noSuchOid oid) := by
  simp [Ops.get, multiget, bind, Except.bind, h, hv, hm, pure, Except.pure, throw, throwThe,
    MonadExceptOf.throw]

theorem C04_get_present (proto : Proto) (rid : Int) (m : RespMsg) (oid o : Oid) (v : Val)
    (h : recv proto rid (.ok m) = .ok m.pdu) (hv : m.pdu.varbinds = [(o, v)]) (hm : v.isMissing = false) :
    (Ops.get proto oid).result rid (.ok m) = .ok v := by
  simp [Ops.get, multiget, bind, Except.bind, h, hv, hm, pure, Except.pure]

/-- get-next: position-wise bindings up to the first endOfMibView, provided each advances -/
theorem C04_multigetnext (proto : Proto) (rid : Int) (m : RespMsg) (resp : PduResp) (oids : List Oid)
    (h : recv proto rid (.ok m) = .ok resp) :
    (multigetnext proto oids).result rid (.ok m) =
      if resp.varbinds.length ≠ oids.length then .error .snmpError
      else if (oids.zip (resp.varbinds.takeWhile (fun vb => !vb.2.isEom))).all (fun p => decide (p.1 < p.2.1))
        then .ok (resp.varbinds.takeWhile (fun vb => !vb.2.isEom)) else .error .faulty := by
  simp only [multigetnext, bind, Except.bind, h]
  by_cases hl : resp.varbinds.length ≠ oids.length
  · simp only [if_pos hl, throw, throwThe, MonadExceptOf.throw]
  · simp only [if_neg hl, pure, Except.pure, throw, throwThe, MonadExceptOf.throw]

theorem advancing_zip_all (f : Oid → VarBind) (hf : ∀ o, (f o).2.isEom = false → o < (f o).1) :
    ∀ oids : List Oid, (oids.zip ((oids.map f).takeWhile (fun vb => !vb.2.isEom))).all
      (fun p => decide (p.1 < p.2.1)) = true
  | [] => rfl
  | o :: rest => by
    cases he : (f o).2.isEom with
    | true => simp [he]
    | false => simp [he, hf o he, advancing_zip_all f hf rest]

theorem conformant_advances (db : List VarBind) (o : Oid) (k : Nat)
    (h : ((Agent.conformant db) o k).2.isEom = false) : o < ((Agent.conformant db) o k).1 := by
  unfold Agent.conformant at *
  cases hn : Agent.nextOf db o with
  | none => simp [hn, Val.isEom] at h
  | some e => simpa using List.find?_some hn

/-- against a conformant agent: each OID's lexicographic successor, up to the end of the view -/
theorem C04_multigetnext_conformant (proto : Proto) (rid : Int) (m : RespMsg) (db : List VarBind)
    (oids : List Oid) (h : recv proto rid (.ok m) = .ok m.pdu)
    (ha : m.pdu.varbinds = Agent.getnextResp (Agent.conformant db) oids) :
    (multigetnext proto oids).result rid (.ok m) =
      .ok ((Agent.getnextResp (Agent.conformant db) oids).takeWhile (fun vb => !vb.2.isEom)) := by
  rw [C04_multigetnext proto rid m m.pdu oids h, ha, if_neg (fun hl => hl (List.length_map ..))]
  exact if_pos (advancing_zip_all (fun x => Agent.conformant db x 0) (fun o => conformant_advances db o 0) oids)

/-- set: the request carries exactly the supplied typed values in mapping order -/
theorem C04_multiset_request (proto : Proto) (rid : Int) (mappings : List VarBind) :
    ((multiset proto mappings).request rid).varbinds = mappings ∧
    ((multiset proto mappings).request rid).kind = .set := by
  simp [multiset]

/-- … and the result is the agent's confirmation keyed by OID -/
theorem C04_multiset_result (proto : Proto) (rid : Int) (m : RespMsg) (resp : PduResp)
    (mappings : List VarBind) (h : recv proto rid (.ok m) = .ok resp) :
    (multiset proto mappings).result rid (.ok m) =
      if (Py.dictOf resp.varbinds).length = mappings.length then .ok (Py.dictOf resp.varbinds)
      else .error .snmpError := by
  simp only [multiset, bind, Except.bind, h, ne_eq, ite_not, pure, Except.pure, throw, throwThe, MonadExceptOf.throw]

/-- get / get-next / set responses with a different number of bindings are refused -/
theorem C04_count_refused (proto : Proto) (rid : Int) (m : RespMsg) (resp : PduResp)
    (oids : List Oid) (mappings : List VarBind) (h : recv proto rid (.ok m) = .ok resp) :
    (resp.varbinds.length ≠ oids.length → (multiget proto oids).result rid (.ok m) = .error .snmpError) ∧
    (resp.varbinds.length ≠ oids.length → (multigetnext proto oids).result rid (.ok m) = .error .snmpError) ∧
    ((Py.dictOf resp.varbinds).length ≠ mappings.length →
      (multiset proto mappings).result rid (.ok m) = .error .snmpError) := by
  refine ⟨?_, ?_, ?_⟩
  · intro hne; rw [C04_multiget proto rid m resp oids h, if_neg hne]
  · intro hne; rw [C04_multigetnext proto rid m resp oids h, if_pos hne]
  · intro hne; rw [C04_multiset_result proto rid m resp mappings h, if_neg hne]

/-- get-bulk: first `|scalars|` bindings keyed as scalars, the rest in agent order as listing up
    to endOfMibView; more than `N + M·R` bindings are refused, fewer accepted. -/
theorem C04_bulkget (proto : Proto) (rid : Int) (m : RespMsg) (resp : PduResp)
    (scalars reps : List Oid) (maxList : Int) (h : recv proto rid (.ok m) = .ok resp) :
    (bulkget proto scalars reps maxList).result rid (.ok m) =
      if (resp.varbinds.length : Int) > Gen.bulkBound scalars.length (scalars ++ reps).length maxList
      then .error .snmpError
      else .ok ⟨Py.dictOf (resp.varbinds.take scalars.length),
                Py.dictOf ((resp.varbinds.drop scalars.length).takeWhile (fun vb => !vb.2.isEom))⟩ := by
  simp only [bulkget, bulkVarbinds, bind, Except.bind, h]
  by_cases hb : (resp.varbinds.length : Int) > Gen.bulkBound scalars.length (scalars ++ reps).length maxList
  · simp only [if_pos hb, throw, throwThe, MonadExceptOf.throw]
  · simp only [if_neg hb, pure, Except.pure]

theorem mem_dictSet {κ ν} [BEq κ] [LawfulBEq κ] (d : List (κ × ν)) (k : κ) (v : ν) (p : κ × ν)
    (h : p ∈ Py.dictSet d k v) : p ∈ d ∨ p = (k, v) := by
  unfold Py.dictSet at h
  split at h
  · obtain ⟨q, hq, rfl⟩ := List.mem_map.mp h
    split
    · rename_i hk; exact .inr (by rw [eq_of_beq hk])
    · exact .inl hq
  · simpa using h

/-- `dict(bindings)` is made of bindings of the input (a key bound twice keeps its last value). -/
theorem dictOf_subset {κ ν} [BEq κ] [LawfulBEq κ] (ps : List (κ × ν)) : ∀ p ∈ Py.dictOf ps, p ∈ ps :=
  -- kept by every assignment of the fold: what the dictionary holds so far is a binding of the input
  List.foldlRecOn ps _ (motive := fun d => ∀ p ∈ d, p ∈ ps) (fun _ h => nomatch h)
    fun d hd x hx p hp => (mem_dictSet d x.1 x.2 p hp).elim (hd p) (· ▸ hx)

/-- get-bulk reports nothing the agent did not send. -/
theorem C04_bulkget_no_invention (proto : Proto) (rid : Int) (m : RespMsg) (resp : PduResp)
    (scalars reps : List Oid) (maxList : Int) (out : BulkResult)
    (h : recv proto rid (.ok m) = .ok resp)
    (ho : (bulkget proto scalars reps maxList).result rid (.ok m) = .ok out) :
    ∀ p ∈ out.scalars ++ out.listing, ∃ q ∈ resp.varbinds, q.2 = p.2 := by
  rw [C04_bulkget proto rid m resp scalars reps maxList h] at ho
  split at ho
  · cases ho
  · cases ho
    intro p hp
    rcases List.mem_append.mp hp with hp | hp
    · exact ⟨p, List.mem_of_mem_take (dictOf_subset _ p hp), rfl⟩
    · exact ⟨p, List.mem_of_mem_drop ((List.takeWhile_sublist _).subset (dictOf_subset _ p hp)), rfl⟩

end Snmp.Props.C04
