/-
  C01 — walk exactness.  Property theorems: `C01_abs_*` about the abstract `(root, cursor)` loop
  (`Snmp.WalkAbs`), the others about the Python-faithful model `Snmp.Walk.multiwalk` (see
  DESIGN.md for what is proved at which level; `Snmp/Lemmas/WalkRefine.lean` relates the two).
-/
import Snmp.Gen.Facts
import Snmp.Lemmas.WalkAbs
import Snmp.Lemmas.WalkSound
import Snmp.Lemmas.WalkComplete
import Snmp.Lemmas.WalkRefine  -- nothing below uses it: imported so that building C01 checks the refinement (`loop_refines`, …)
import Snmp.Lemmas.SingleRoot
namespace Snmp.Props.C01
open Snmp Snmp.WalkAbs

/-- Multi-root GETNEXT walk (abstract loop), every strictly sorted database, every ascending
    list of prefix-free roots: the loop ends within `|db|+1` rounds with no unfinished root and
    has yielded every entry strictly below a root. -/
theorem C01_abs_complete (db roots : List Oid) (hs : Sorted db) (hd : Disjoint roots) :
    let s := run db roots (db.length + 1) (init roots)
    s.cur = [] ∧ ∀ r ∈ roots, ∀ o ∈ db, r <+: o → o ≠ r → o ∈ s.yielded := by
  obtain ⟨hc, hi⟩ := run_done hs hd (db.length + 1) (init roots) (init_inv db roots) (Fuel.init _ (Nat.lt_succ_self _))
  exact ⟨hc, hi.done hc⟩

/-- Single root: the walk yields exactly the database entries above the root that lie inside
    it, in ascending order (they are a `takeWhile` of the sorted suffix). -/
theorem C01_abs_single_sorted (db : List Oid) (root : Oid) (hs : Sorted db) :
    walk1 db root (db.length + 1) root = (above db root).takeWhile (inside root) :=
  walk1_eq db root hs (db.length + 1) root (Nat.lt_succ_of_le (List.length_filter_le _ _))

/-- Subtree convexity: what makes "stop at the first binding outside the root" and "cut at the
    first endOfMibView" lossless for ascending cursors. -/
theorem C01_convex (root a b c : Oid) (ha : root <+: a) (hc : root <+: c)
    (hab : a ≤ b) (hbc : b ≤ c) : root <+: b := convex root a b c ha hc hab hbc

/-- **On the Python-faithful model**: the outcome does not depend on the order in which the roots
    were listed — requests, yields and ending of `multiwalk` are identical for every permutation
    (any fetcher, any mode). -/
theorem C01_order_independent (fetch : Fetcher) (roots roots' : List Oid) (h : roots'.Perm roots)
    (lenient : Bool) (fuel : Nat) :
    Walk.multiwalk fetch roots' lenient fuel = Walk.multiwalk fetch roots lenient fuel :=
  Walk.multiwalk_perm fetch roots roots' h lenient fuel

/-- **On the Python-faithful model, for ANY agent** (conformant or not): every yielded binding lies
    inside one of the requested roots, and no OID is yielded more than once. -/
theorem C01_sound_nodup (fetch : Fetcher) (roots : List Oid) (lenient : Bool) (fuel : Nat) :
    (Walk.yieldOids (Walk.multiwalk fetch roots lenient fuel).events).Nodup ∧
    ∀ y ∈ Walk.yieldOids (Walk.multiwalk fetch roots lenient fuel).events, ∃ r ∈ roots, r <+: y :=
  Walk.multiwalk_sound fetch roots lenient fuel

/-- **Completeness and termination on the Python-faithful model.**  Against the conformant agent
    holding any strictly ascending database (no stored value being the endOfMibView marker), for
    pairwise disjoint roots listed in any order, strict or lenient mode, and any loop budget of at
    least `|db|` iterations: `Client.multiwalk` (hence `walk`) ends normally and has yielded every
    database entry — OID and value — lying strictly below a requested root; everything it yields
    is an entry of the database.  (Exactly-once and inside-the-roots hold for any agent:
    `C01_sound_nodup`.) -/
theorem C01_complete (dbv : List VarBind) (pol : BulkPolicy) (roots : List Oid) (lenient : Bool) (fuel : Nat)
    (hs : Sorted (dbv.map (·.1))) (hv : ∀ vb ∈ dbv, vb.2.isEom = false)
    (hd : Walk.PrefixFree roots) (hfuel : dbv.length ≤ fuel) :
    let r := Walk.walkGetnext (Walk.exchangeOf (Agent.conformant dbv) dbv pol) roots lenient fuel
    r.outcome = .done ∧
    (∀ vb ∈ dbv, (∃ root ∈ roots, root <+: vb.1 ∧ vb.1 ≠ root) → vb ∈ r.yields) ∧
    (∀ vb ∈ r.yields, vb ∈ dbv) := by
  by_cases hne : roots = []
  · -- no root: one empty request, nothing yielded
    subst hne
    rw [Walk.walkGetnext, Walk.multiwalk_nil lenient fuel (by simp [Walk.sortOids])
      (Walk.multigetnext_eq_fetchVb dbv pol hv [])]
    exact ⟨rfl, fun _ _ ⟨_, h, _⟩ => (nomatch h), fun _ h => nomatch h⟩
  · exact Walk.walk_complete _ dbv roots lenient fuel hs hv hd hne (Walk.cfetch_conformant dbv pol hv) hfuel

/-- **Single root, on the Python-faithful model, for ANY agent**: the instances come in strictly
    ascending OID order. -/
theorem C01_single_ascending (x : Exchange) (root : Oid) (lenient : Bool) (fuel : Nat) :
    (Walk.yieldOids (Walk.walkGetnext x [root] lenient fuel).events).Pairwise (· < ·) :=
  Walk.multiwalk_asc (Walk.multigetnext x) (Walk.multigetnext_ascending x) root lenient fuel

/-- the hypotheses of `C01_complete` are satisfiable by a non-trivial database, with the roots
    listed in descending order -/
example : Sorted ([([1,3,1,1], Val.int 1), ([1,3,2,1], Val.null), ([1,3,2,2], Val.int 7)].map (·.1))
    ∧ Walk.PrefixFree [[1,3,2],[1,3,1]] :=
  ⟨by unfold Sorted; decide, by unfold Walk.PrefixFree; decide⟩

example : Sorted [[1,3,1,1],[1,3,2,1]] ∧ Disjoint [[1,3,1],[1,3,2]] :=
  ⟨by unfold Sorted; decide, by unfold Disjoint; decide⟩


/-- the loop of `Client.multiwalk` has the shape the model `Walk.multiwalk` renders (generated from the
    AST): roots sorted for the first request, `yielded` a local of the generator, one
    `while unfinished_oids:` loop, `NoSuchOID` ends it, `FaultySNMPImplementation` ends it in lenient
    mode and is re-raised otherwise, every response goes through `group_varbinds`,
    `get_unfinished_walk_oids` and `deduped_varbinds(oids, …, yielded)` -/
theorem C01_loop_shape : Snmp.Gen.walkLoopShape = true := by decide

end Snmp.Props.C01
