/-
  C18 — temporary reconfiguration applies inside its block and is undone exactly.
  Property theorems only; the model is `Snmp.Model.Cfg`, the tables are generated facts.
-/
import Snmp.Model.Cfg
import Snmp.Gen.Facts
namespace Snmp.Props.C18
open Snmp.Cfg

/-- The settings that can be overridden are the documented ones (generated from `ClientConfig`). -/
theorem C18_config_fields :
    Gen.configFields = ["credentials", "context", "lcd", "timeout", "retries"] := rfl

/-- the protocol version each credential family speaks -/
def versionOf : Family → Nat
  | .v1 => 0 | .v2c => 1 | .v3 => 3

/-- the generated tables know every credential class and its plug-in: `configure` with known keys
    never fails, and a new family brings a fresh instance speaking that family's version -/
theorem configure_known (kw : Kwargs) (s : St) (hk : knownKeys kw = true) :
    configure kw s = .ok
      (let s₁ := { s with config := kw.foldl (fun c p => setField c p.1 p.2) s.config }
       match credOf kw with
       | some c =>
         if c.family ≠ s.config.credentials.family then
           { s₁ with mpm := ⟨versionOf c.family, s.fresh⟩, fresh := s.fresh + 1 }
         else s₁
       | none => s₁) := by
  have hcreate : ∀ f : Family, credMpm f = some (versionOf f) ∧
      mpmCreate (versionOf f) s.fresh = .ok ⟨versionOf f, s.fresh⟩ := fun f => by cases f <;> exact ⟨rfl, rfl⟩
  unfold configure
  simp only [hk, Bool.not_true, Bool.false_eq_true, if_false]
  cases credOf kw with
  | none => rfl
  | some c =>
    simp only
    split
    · rw [(hcreate c.family).1]; simp only [(hcreate c.family).2]
    · rfl

theorem configure_config (kw : Kwargs) (s s' : St) (h : configure kw s = .ok s') :
    s'.config = kw.foldl (fun c p => setField c p.1 p.2) s.config := by
  cases hk : knownKeys kw with
  | false => simp [configure, hk] at h
  | true =>
    rw [configure_known kw s hk] at h
    cases h
    cases credOf kw with
    | none => rfl
    | some c => simp only; split <;> rfl

/-- Leaving a `reconfigure` block — normally, by an exception of the body, by an exception of
    the inner `configure` — leaves `config` and the message-processing instance exactly as they
    were on entry, whatever the body did (nested blocks, permanent `configure` calls inside,
    requests, exceptions), at any depth. -/
theorem C18_restore (kw : Kwargs) (body : List Prog) (s : St) :
    (exec (.reconfigure kw body) s).state.config = s.config ∧
    (exec (.reconfigure kw body) s).state.mpm = s.mpm := by
  unfold exec
  cases configure kw s <;> simp

/-- statements that make no permanent change: anything but a `configure` outside every block -/
def temporary : Prog → Bool
  | .configure _ => false
  | .catch body => body.attach.all fun ⟨p, _⟩ => temporary p
  | _ => true
termination_by p => sizeOf p
decreasing_by simp_wf; have := List.sizeOf_lt_of_mem ‹_›; omega

theorem temporary_catch (body : List Prog) : temporary (.catch body) = true ↔ ∀ p ∈ body, temporary p = true := by
  rw [temporary, List.all_eq_true]
  exact ⟨fun h p hp => h ⟨p, hp⟩ (List.mem_attach _ _), fun h p _ => h p.1 p.2⟩

mutual
/-- one statement that is not a permanent `configure` leaves `config` and `mpm` as they were -/
theorem temp_exec (p : Prog) (s : St) (h : temporary p = true) :
    (exec p s).state.config = s.config ∧ (exec p s).state.mpm = s.mpm := by
  cases p with
  | request =>
    simp only [exec, request]
    split <;> simp
  | peek => simp [exec]
  | configure kw => simp [temporary] at h
  | reconfigure kw body => exact C18_restore kw body s
  | raise => simp [exec]
  | «catch» body =>
    have := C18_restore_program body s ((temporary_catch body).1 h)
    -- the handler changes what is raised, not the state
    rw [exec]
    split <;> exact this
/-- A whole program made of requests, blocks (with anything inside), exceptions and handlers —
    but no permanent `configure` at its own level — ends with the configuration it started with. -/
theorem C18_restore_program (ps : List Prog) (s : St) (h : ∀ p ∈ ps, temporary p = true) :
    (execList ps s).state.config = s.config ∧ (execList ps s).state.mpm = s.mpm := by
  cases ps with
  | nil => simp [execList]
  | cons p ps =>
    have h1 := temp_exec p s (h p (by simp))
    have h2 := C18_restore_program ps (exec p s).state (fun q hq => h q (by simp [hq]))
    rw [execList]
    cases (exec p s).err
    · exact ⟨h2.1.trans h1.1, h2.2.trans h1.2⟩
    · exact h1
end

/-- Requests issued inside the block show exactly the overridden configuration at the seam:
    the observations of the block start with those of a request made in the configured state. -/
theorem C18_inside (kw : Kwargs) (rest : List Prog) (s s' : St) (h : configure kw s = .ok s') :
    (request s').2 <+: (exec (.reconfigure kw (.request :: rest)) s).obs := by
  unfold exec
  simp only [h]
  unfold execList
  simp only [exec]
  cases (execList rest (request s').1).err <;> simp

def getField (c : Config) (k : String) : KwVal :=
  if k = "credentials" then .cred c.credentials
  else if k = "context" then .ident c.context
  else if k = "lcd" then .ident c.lcd
  else if k = "timeout" then .num c.timeout
  else .num c.retries

def wellTyped (k : String) (v : KwVal) : Bool :=
  match k, v with
  | "credentials", .cred _ => true
  | "context", .ident _ => true
  | "lcd", .ident _ => true
  | "timeout", .num _ => true
  | "retries", .num _ => true
  | _, _ => false

theorem setField_other (c : Config) (k k' : String) (v : KwVal) (hk : k' ≠ k)
    (hkn : Gen.configFields.contains k = true) : getField (setField c k' v) k = getField c k := by
  have hk' := Ne.symm hk
  unfold setField
  split
  -- `setField` wrote the field `k'`, and `getField` passes over the test for that name
  · simp only [getField, if_neg hk']
  · simp only [getField, if_neg hk']
  · simp only [getField, if_neg hk']
  · simp only [getField, if_neg hk']
  · -- "retries" has no test, it is what `getField` falls back on: here it matters that `k` names a field
    have hk5 : k = "credentials" ∨ k = "context" ∨ k = "lcd" ∨ k = "timeout" ∨ k = "retries" := by
      simpa [Gen.configFields] using hkn
    rcases hk5 with rfl | rfl | rfl | rfl | rfl <;> simp [getField] at hk ⊢
  · rfl

theorem setField_same (c : Config) (k : String) (v : KwVal) (hw : wellTyped k v = true) :
    getField (setField c k v) k = v := by
  unfold wellTyped at hw
  split at hw <;> simp [getField, setField] at hw ⊢

theorem foldl_other (kw : Kwargs) (c : Config) (k : String) (hkn : Gen.configFields.contains k = true)
    (h : ∀ p ∈ kw, p.1 ≠ k) :
    getField (kw.foldl (fun c p => setField c p.1 p.2) c) k = getField c k :=
  List.foldlRecOn kw _ (motive := fun c' => getField c' k = getField c k) rfl
    fun c' hc' p hp => (setField_other c' k p.1 p.2 (h p hp) hkn).trans hc'

theorem foldl_sets (kw : Kwargs) (c : Config) (k : String) (v : KwVal)
    (hkn : Gen.configFields.contains k = true) (hd : kw.Pairwise (fun a b => a.1 ≠ b.1))
    (hm : (k, v) ∈ kw) (hw : wellTyped k v = true) :
    getField (kw.foldl (fun c p => setField c p.1 p.2) c) k = v := by
  induction kw generalizing c with
  | nil => simp at hm
  | cons p kw ih =>
    simp only [List.foldl_cons]
    rw [List.pairwise_cons] at hd
    rcases List.mem_cons.mp hm with h | h
    · subst h
      rw [foldl_other kw _ k hkn (fun q hq => (hd.1 q hq).symm)]
      exact setField_same c k v hw
    · exact ih _ hd.2 h

/-- Every overridden setting has exactly the supplied value after `configure` (keyword
    arguments are distinct, as Python guarantees); settings not named keep their value. -/
theorem C18_configure_values (kw : Kwargs) (s s' : St) (h : configure kw s = .ok s')
    (hd : kw.Pairwise (fun a b => a.1 ≠ b.1)) (k : String)
    (hkn : Gen.configFields.contains k = true) :
    (∀ v, (k, v) ∈ kw → wellTyped k v = true → getField s'.config k = v) ∧
    ((∀ p ∈ kw, p.1 ≠ k) → getField s'.config k = getField s.config k) := by
  rw [configure_config kw s s' h]
  exact ⟨fun v hm hw => foldl_sets kw _ k v hkn hd hm hw, fun hn => foldl_other kw _ k hkn hn⟩

/-- Permanent reconfiguration persists: a request after `configure` shows the new configuration
    and the state stays configured. -/
theorem C18_permanent (kw : Kwargs) (s s' : St) (h : configure kw s = .ok s') :
    (execList [.configure kw, .request] s).obs = (request s').2 ∧
    (execList [.configure kw, .request] s).state = (request s').1 ∧
    (execList [.configure kw, .request] s).err = none := by
  simp [execList, exec, h]

/-- Unknown settings are refused with `TypeError` and change nothing, permanently or temporarily. -/
theorem C18_unknown_refused (kw : Kwargs) (body : List Prog) (s : St)
    (h : ∃ p ∈ kw, Gen.configFields.contains p.1 = false) :
    exec (.configure kw) s = ⟨s, [], some .typeError⟩ ∧
    exec (.reconfigure kw body) s = ⟨s, [], some .typeError⟩ := by
  have hk : knownKeys kw = false :=
    have ⟨p, hp, hf⟩ := h
    List.all_eq_false.mpr ⟨p, hp, ne_true_of_eq_false hf⟩
  have hc : configure kw s = .error .typeError := by simp [configure, hk]
  simp [exec, hc]

/-- Switching the credential family switches the message-processing model to the new
    family's protocol version (a fresh instance); same family keeps the instance. -/
theorem C18_family_switch (kw : Kwargs) (c : Cred) (s : St) (hk : knownKeys kw = true)
    (hc : credOf kw = some c) :
    ∃ s', configure kw s = .ok s' ∧
      (c.family ≠ s.config.credentials.family →
        s'.mpm = ⟨versionOf c.family, s.fresh⟩ ∧ s'.fresh = s.fresh + 1) ∧
      (c.family = s.config.credentials.family → s'.mpm = s.mpm) := by
  refine ⟨_, configure_known kw s hk, ?_⟩
  simp only [hc]
  by_cases hf : c.family = s.config.credentials.family <;> simp [hf]

/-- A request is sent with the protocol version of the current message-processing instance and
    with the current timeout, retries and credentials; its engine discovery (SNMPv3, first use
    of an instance) goes through the seam with the same timeout and retries. -/
theorem C18_request_shows_config (s : St) :
    ∀ o ∈ (request s).2, o.timeout = s.config.timeout ∧ o.retries = s.config.retries ∧
      o.version = s.mpm.ident ∧ o.inst = s.mpm.inst ∧
      (o.kind = 0 → o.cred = some s.config.credentials.ident) := by
  intro o ho
  unfold request at ho
  by_cases hc : s.mpm.ident = 3 ∧ ¬ s.discovered.contains s.mpm.inst
  · rw [if_pos hc] at ho
    simp only [List.mem_cons, List.not_mem_nil, or_false] at ho
    rcases ho with h | h <;> subst h <;> simp
  · rw [if_neg hc] at ho
    simp only [List.mem_cons, List.not_mem_nil, or_false] at ho
    subst ho; simp

/- non-vacuity: a nested block with a family switch inside and an exceptional exit -/
def s0 : St := ⟨⟨⟨.v2c, 0⟩, 0, 0, 6, 10⟩, ⟨1, 0⟩, 1, []⟩
example : (execList [.reconfigure [("credentials", .cred ⟨.v3, 1⟩), ("timeout", .num 2)]
            [.request, .catch [.reconfigure [("retries", .num 1)] [.request, .raise]], .configure [("timeout", .num 9)]],
          .request] s0).obs.map (fun o => (o.kind, o.timeout, o.retries, o.version)) =
    [(1, 2, 10, 3), (0, 2, 10, 3), (0, 2, 1, 3), (0, 6, 10, 1)] := rfl
example : (configure [("credentials", .cred ⟨.v3, 1⟩)] s0).toOption.map (fun s => (s.mpm, s.fresh, s.config.credentials)) =
    some (⟨3, 1⟩, 2, ⟨.v3, 1⟩) := rfl


/-- `Client.reconfigure` puts the saved `config` and `mpm` back in a `finally` around
    `configure(**kwargs); yield` (shape of the code, generated) — what the `Cfg` interpreter's
    handling of exceptional exits is built on -/
theorem C18_restore_shape : Snmp.Gen.reconfigureRestoresInFinally = true := by decide

end Snmp.Props.C18
