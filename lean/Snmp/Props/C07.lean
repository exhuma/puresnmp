/-
  C07 — only the response to the request actually sent is ever returned.  Property theorems
  over the PDU-level model `Snmp.Ops` (every operation = one clock read `rid`, one request, one
  interpreted answer; the read count is compared with the implementation by correspondence).
-/
import Snmp.Lemmas.OpsLemmas
import Snmp.Gen.Facts
import Snmp.Props.C06
namespace Snmp.Props.C07
open Snmp Snmp.Ops

/-- Anything `_send` hands back carries the id it was validated against. -/
theorem C07_recv_ok_id (proto : Proto) (rid : Int) (r : Except Err RespMsg) (p : PduResp)
    (h : recv proto rid r = .ok p) : p.requestId = rid := by
  obtain ⟨m, _, _, _, hid, rfl⟩ := recv_ok_iff.mp h
  exact hid

/-- The id placed into the request PDU is the id the response is validated against — for
    every operation and every clock value (so however the clock advances between reads). -/
theorem C07_same_id (proto : Proto) (rid : Int) (oids : List Oid) (oid : Oid) (vbs : List VarBind)
    (v : Val) (scalars reps : List Oid) (maxList : Int) :
    ((multiget proto oids).request rid).requestId = rid ∧
    ((Ops.get proto oid).request rid).requestId = rid ∧
    ((multigetnext proto oids).request rid).requestId = rid ∧
    ((getnext proto oid).request rid).requestId = rid ∧
    ((multiset proto vbs).request rid).requestId = rid ∧
    ((Ops.set proto oid v).request rid).requestId = rid ∧
    ((bulkget proto scalars reps maxList).request rid).requestId = rid :=
  ⟨rfl, rfl, rfl, rfl, rfl, rfl, rfl⟩

/-- The id test is the one in the source: `validate_response_id` (translated from the working tree
    on every run, `Gen.responseIdRefused`) raises exactly when the two ids differ. -/
theorem C07_id_rule (rid respId : Int) : Gen.responseIdRefused rid respId = true ↔ respId ≠ rid := by
  simp [Gen.responseIdRefused]

/-- A response whose id differs from the request's never yields a result: when the wrapper
    checks pass and no error-status is set the call raises `InvalidResponseId`. -/
theorem C07_mismatch (proto : Proto) (rid : Int) (m : RespMsg)
    (hd : mpmDecode proto m = .ok m.pdu) (he : m.pdu.errorStatus = 0) (hne : m.pdu.requestId ≠ rid) :
    recv proto rid (.ok m) = .error .invalidResponseId := by
  simp [recv, hd, forcePdu, he, hne, bind, Except.bind, throw, throwThe, MonadExceptOf.throw]

/-- … and in *no* case is there a result (whatever the wrapper and error fields say). -/
theorem C07_mismatch_never_result (proto : Proto) (rid : Int) (m : RespMsg) (p : PduResp)
    (hne : m.pdu.requestId ≠ rid) : recv proto rid (.ok m) ≠ .ok p := by
  intro h
  exact hne (recv_msg_ok_iff.mp h).2.2.1

/-- The retransmission after a notInTimeWindow report is under the same rule: whichever of the
    two exchanges produced the result, its request-id is the id of the request. -/
theorem C07_retry_rule (proto : Proto) (rid : Int) (first : FirstExchange) (second : Except Err RespMsg) (p : PduResp)
    (h : sendRetry proto rid first second = .ok p) : p.requestId = rid := by
  cases first with
  | answer r => exact C07_recv_ok_id proto rid r p h
  | timeWindowReport => exact C07_recv_ok_id proto rid second p h

/-- … and a foreign id in the answer to the retransmitted request never yields a result. -/
theorem C07_retry_mismatch (proto : Proto) (rid : Int) (m : RespMsg) (p : PduResp)
    (hne : m.pdu.requestId ≠ rid) : sendRetry proto rid .timeWindowReport (.ok m) ≠ .ok p :=
  C07_mismatch_never_result proto rid m p hne

/-- A conformant agent that echoes the request id (right version, right community, no
    error) is always accepted, for v1, v2c and v3. -/
theorem C07_echo_accepted (community : Bytes) (rid : Int) (pdu : PduResp)
    (he : pdu.errorStatus = 0) (hid : pdu.requestId = rid) (c' : Bytes) (ver : Int) :
    recv (.v2c community) rid (.ok ⟨1, community, pdu⟩) = .ok pdu ∧
    recv (.v1 community) rid (.ok ⟨0, community, pdu⟩) = .ok pdu ∧
    recv .v3 rid (.ok ⟨ver, c', pdu⟩) = .ok pdu :=
  ⟨recv_msg_ok_iff.mpr ⟨⟨rfl, rfl⟩, he, hid, rfl⟩, recv_msg_ok_iff.mpr ⟨⟨rfl, rfl⟩, he, hid, rfl⟩,
    recv_msg_ok_iff.mpr ⟨trivial, he, hid, rfl⟩⟩

/-- Community-based responses with another community string or protocol version are refused. -/
theorem C07_community_version (community : Bytes) (rid : Int) (m : RespMsg) (p : PduResp)
    (hbad : m.community ≠ community ∨ m.version ≠ 1) :
    recv (.v2c community) rid (.ok m) ≠ .ok p := by
  intro h
  obtain ⟨⟨hv, hc⟩, _⟩ := recv_msg_ok_iff.mp h
  exact hbad.elim (· hc) (· hv)

theorem C07_community_version_v1 (community : Bytes) (rid : Int) (m : RespMsg) (p : PduResp)
    (hbad : m.community ≠ community ∨ m.version ≠ 0) :
    recv (.v1 community) rid (.ok m) ≠ .ok p := by
  intro h
  obtain ⟨⟨hv, hc⟩, _⟩ := recv_msg_ok_iff.mp h
  exact hbad.elim (· hc) (· hv)

/-- Every operation's result is derived from a `recv`-accepted response: a result exists
    only if the answer was a message whose PDU id equals the id in the request sent. -/
theorem C07_result_implies_id (proto : Proto) (rid : Int) (r : Except Err RespMsg)
    (oids : List Oid) (out : List Val) (h : (multiget proto oids).result rid r = .ok out) :
    ∃ m, r = .ok m ∧ m.pdu.requestId = ((multiget proto oids).request rid).requestId := by
  cases hr : recv proto rid r with
  | error e => rw [show (multiget proto oids).result rid r = (recv proto rid r).bind _ from rfl, hr] at h; cases h
  | ok p =>
    obtain ⟨m, hm, _, _, hid, _⟩ := recv_ok_iff.mp hr
    exact ⟨m, hm, hid⟩

-- non-vacuity: an echoing answer is accepted, an off-by-one answer is not
example : recv (.v2c [112]) 7 (.ok ⟨1, [112], ⟨7, 0, 0, []⟩⟩) = .ok ⟨7, 0, 0, []⟩ := by
  simp [recv, mpmDecode, forcePdu, bind, Except.bind, pure, Except.pure]
example : recv (.v2c [112]) 7 (.ok ⟨1, [112], ⟨8, 0, 0, []⟩⟩) = .error .invalidResponseId := by
  simp [recv, mpmDecode, forcePdu, bind, Except.bind, throw, throwThe, MonadExceptOf.throw]

/-- **From the octets on.**  Whatever community response message an agent writes — any PDU class, any
    bindings, any admissible length form at every TLV (`Glue.WritesMsg`) — with the expected version and
    community and no error-status: if the request-id it carries is not the id of the request sent,
    every operation of the client (decoder, unpacking glue, wrapper checks, id check) raises
    `InvalidResponseId`; if it is, `_send` hands on exactly the PDU the agent wrote. -/
theorem C07_from_wire (e : Ber.Enc) (m : RespMsg) (cls : String) (hw : Glue.WritesMsg e m cls) (community : Bytes) (rid : Int)
    (hver : m.version = 1) (hcom : m.community = community) (hes : m.pdu.errorStatus = 0)
    (fuel depth : Nat) (hwd : e.width ≤ fuel) (hd : e.depth ≤ depth) :
    (m.pdu.requestId ≠ rid → recv (.v2c community) rid (C06.fromWire e.bytes fuel depth) = .error .invalidResponseId) ∧
    (m.pdu.requestId = rid → recv (.v2c community) rid (C06.fromWire e.bytes fuel depth) = .ok m.pdu) := by
  rw [C06.fromWire_writes hw fuel depth hwd hd, recv_msg_of_wrapper (.v2c community) rid m ⟨hver, hcom⟩, if_neg (fun h => h hes)]
  exact ⟨fun hne => if_pos hne, fun heq => if_neg (fun h => h heq)⟩


/-- in `Client._send_once` the id check follows the decoding unconditionally and precedes the only
    `return` (shape of the code, generated) — what `Ops.recv` is built on -/
theorem C07_check_shape : Snmp.Gen.idCheckedBeforeReturn = true := by decide

end Snmp.Props.C07
