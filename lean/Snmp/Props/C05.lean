/-
  C05 — every emitted datagram is the intended request under an independent decoder.
  Impl side: `Snmp.Ber` encoders (the x690 mirror) and `Snmp.Emit`; spec side: `Snmp.Spec` reader.
  Domain (explicit, decidable): OIDs with at least two arcs whose first two arcs fit the first
  octet the way x690 packs them (`OidDom`), datagrams shorter than 256^126 octets (`Small`).
-/
import Snmp.Lemmas.SpecVal
import Snmp.Model.Emit
namespace Snmp.Props.C05
open Snmp Snmp.Ber Snmp.Spec

/-- every length the library writes is read back, whatever follows -/
theorem C05_len_roundtrip (n : Nat) (hn : Small n) (rest : Bytes) :
    readLength (encodeLength n ++ rest) = some (n, rest) := by
  rw [Reenc.encodeLength_formOf]
  exact readLength_specLength _ n (Reenc.formOf_ok n hn) rest

/-- every integer (request ids far beyond today's clock values included) -/
theorem C05_int_roundtrip (v : Int) : readInt (intEncode v) = some v := readInt_intEncode v

/-- every OID of the domain: later sub-identifiers unbounded, any number of arcs.  PARTIAL with
    respect to the property's "all OID lists": the domain excludes arc0 = 2 with arc1 ≥ 40, see
    `C05_oid_counterexample`. -/
theorem C05_oid_roundtrip (o : Oid) (h : OidDom o) : ∃ bs, oidEncode o = some bs ∧ readOid bs = some o :=
  readOid_oidEncode o h

/-- the full statement over all legal OIDs (arc0 = 2 allows any arc1, X.660) -/
def C05_oid_statement : Prop :=
  ∀ (b : Nat) (rest : List Nat), ∀ bs, oidEncode (2 :: b :: rest) = some bs → readOid bs = some (2 :: b :: rest)

/-- It does not hold: the mirror of x690's `ObjectIdentifier.encode_raw` packs the first two arcs
    into one *octet*; 2.100.3 is written `b4 03`, which the specification reader (and every BER
    decoder) takes for the single sub-identifier 6659 = 2.6579.  Known finding of the dependency
    (C05-x690-oid-second-arc), replayed on the implementation by the suite `second-arc`. -/
theorem C05_oid_counterexample : ¬ C05_oid_statement := by
  intro h
  have := h 100 [3] [180, 3] (by decide)
  revert this
  decide

/-- every SET value kind over its full range -/
theorem C05_value_roundtrip (v : Val) (hv : SetVal v) (bs : Bytes) (he : encodeVal v = some bs)
    (hs : Small bs.length) (rest : Bytes) :
    ∃ t c, readTLV (bs ++ rest) = some (t, c, rest) ∧ readVal t c = some v := by
  obtain ⟨t, c, rfl, h⟩ := encodeVal_read he hv
  exact ⟨t, c, readTLV_tlv t c rest hs.content, h⟩

def ReqOk (vbs : List VarBind) : Prop := ∀ vb ∈ vbs, BindOk vb

/-- PDU framing: request-id of any size, the two integer fields, the caller's bindings in order -/
theorem C05_pdu (cls : String) (rid a b : Int) (vbs : List VarBind) (hv : ReqOk vbs) (bs : Bytes)
    (he : encodePdu cls rid a b vbs = some bs) (hs : Small bs.length) (rest : Bytes) :
    ∃ c, readTLV (bs ++ rest) = some (tagOf cls, c, rest) ∧ readPdu (tagOf cls) c = some ⟨tagOf cls, rid, a, b, vbs⟩ := by
  obtain ⟨c, rfl, h⟩ := encodePdu_read he hv hs
  exact ⟨c, readTLV_tlv _ c rest hs.content, h⟩

/-- v1 / v2c: version, community, and the PDU — nothing else in the datagram -/
theorem C05_community_request (version : Int) (comm : Bytes) (r : Ops.PduReq) (hv : ReqOk r.varbinds)
    (dg : Bytes) (he : Emit.community version comm r = some dg) (hs : Small dg.length) :
    readCommunityMsg dg = some ⟨version, comm,
      ⟨tagOf (Emit.pduClass r.kind), r.requestId, r.a, r.b, r.varbinds⟩⟩ := by
  simp only [Emit.community, Option.map_eq_some_iff] at he
  obtain ⟨pb, hpb, rfl⟩ := he
  have hc := hs.content
  obtain ⟨c, rfl, hpdu⟩ := encodePdu_read hpb hv hc.right
  have hseq := readSeq_written [(2, intEncode version), (4, comm), (tagOf (Emit.pduClass r.kind), c)] hc
  rw [readCommunityMsg, encodeCommunityMsg, readTLV_tlv_nil 48 _ hc]
  simp only [hseq, readInt_intEncode, hpdu, bind, Option.bind, pure]

/-- SNMPv3: header (message id, max size, flags, security model 3), USM security parameters
    (engine id, boots, time, user, authentication and privacy parameters) and the msgData field
    (scoped PDU sequence, or the ciphertext OCTET STRING) are read back — nothing else is in the
    datagram. -/
theorem C05_v3_request (p : Emit.V3Params) (dt : Nat) (d : Bytes)
    (hs : Small (Emit.v3Around p (Ber.tlv dt d)).length) :
    readV3Msg (Emit.v3Around p (Ber.tlv dt d)) =
      some ⟨p.msgId, p.maxSize, p.flags, 3, p.engineId, p.boots, p.time, p.user, p.authParams, p.privParams, dt, d⟩ := by
  simp only [Emit.v3Around, encodeV3Msg, encodeHeader, encodeUsmParams] at hs ⊢
  -- the message content is `version ++ header ++ OCTET STRING(params) ++ msgData`; `hH` is for the content of
  -- the header, `hSP` for the content of the OCTET STRING, i.e. the parameter block
  have hO := hs.content
  have hH := hO.left.left.right.content
  have hSP := hO.left.right.content
  have hseqO := readSeq_written [(2, intEncode 3), (48, _), (4, Ber.tlv 48 _), (dt, d)] hO
  have hseqH := readSeq_written [(2, intEncode p.msgId), (2, intEncode p.maxSize), (4, [p.flags]), (2, intEncode 3)] hH
  have hseqS := readSeq_written [(4, p.engineId), (2, intEncode p.boots), (2, intEncode p.time), (4, p.user),
    (4, p.authParams), (4, p.privParams)] hSP.content
  rw [readV3Msg, readTLV_tlv_nil 48 _ hO]
  simp only [hseqO, hseqH, readTLV_tlv_nil 48 _ hSP.content, hseqS, readInt_intEncode, bind, Option.bind, pure]

/-- the scoped PDU inside: context engine id, context name and the request PDU -/
theorem C05_v3_scoped (p : Emit.V3Params) (r : Ops.PduReq) (hv : ReqOk r.varbinds) (sb : Bytes)
    (he : Emit.scopedBytes p r = some sb) (hs : Small sb.length) :
    ∃ c, sb = Ber.tlv 48 c ∧ readScoped c = some ⟨p.ctxEngine, p.ctxName,
      ⟨tagOf (Emit.pduClass r.kind), r.requestId, r.a, r.b, r.varbinds⟩⟩ := by
  simp only [Emit.scopedBytes, Option.map_eq_some_iff] at he
  obtain ⟨pb, hpb, rfl⟩ := he
  have hc := hs.content
  obtain ⟨c, rfl, hpdu⟩ := encodePdu_read hpb hv hc.right
  have hseq := readSeq_written [(4, p.ctxEngine), (4, p.ctxName), (tagOf (Emit.pduClass r.kind), c)] hc
  exact ⟨_, rfl, by rw [readScoped, hseq]; simp only [hpdu, bind, Option.bind, pure]⟩

/-- Each API operation builds exactly the intended record: PDU type per operation, the single
    clock value as request-id, zero error fields (or non-repeaters / max-repetitions), the caller's
    OIDs in order bound to NULL, or the caller's typed SET values. -/
theorem C05_request_of_op (proto : Ops.Proto) (rid : Int) (oids scalars reps : List Oid)
    (mappings : List VarBind) (maxList : Int) :
    (Ops.multiget proto oids).request rid = ⟨.get, rid, 0, 0, oids.map (·, Val.null)⟩ ∧
    (Ops.multigetnext proto oids).request rid = ⟨.getnext, rid, 0, 0, oids.map (·, Val.null)⟩ ∧
    (Ops.multiset proto mappings).request rid = ⟨.set, rid, 0, 0, mappings⟩ ∧
    (Ops.bulkget proto scalars reps maxList).request rid =
      ⟨.getbulk, rid, scalars.length, maxList, (scalars ++ reps).map (·, Val.null)⟩ ∧
    tagOf (Emit.pduClass .get) = 160 ∧ tagOf (Emit.pduClass .getnext) = 161 ∧
    tagOf (Emit.pduClass .set) = 163 ∧ tagOf (Emit.pduClass .getbulk) = 165 :=
  ⟨rfl, rfl, rfl, rfl, request_tags⟩

/-- **The discovery probe.**  What `send_discovery_message` emits for message id `rid` is read by the
    independent reader as the RFC 3414 section 4 discovery request: message id `rid`, msgMaxSize 65507,
    flags = reportable only (generated `V3Flags.__bytes__`), security model 3, zero-length engine id,
    boots = time = 0, zero-length user name and parameters, and a plain scoped PDU with empty
    context fields holding a GetRequest with request-id `rid`, zero error fields and no bindings. -/
theorem C05_discovery_probe (rid : Int) (dg : Bytes) (he : Emit.probe rid = some dg) (hs : Small dg.length) :
    ∃ c, readV3Msg dg = some ⟨rid, 65507, 4, 3, [], 0, 0, [], [], [], 48, c⟩ ∧
      readScoped c = some ⟨[], [], ⟨160, rid, 0, 0, []⟩⟩ := by
  have hm : (Gen.messageMaxSize : Int) = 65507 := by decide
  have hf : (Gen.flagsEncode false false true).toNat = 4 := by decide
  unfold Emit.probe Emit.v3Plain at he
  obtain ⟨sb, hsb, rfl⟩ := Option.map_eq_some_iff.mp he
  -- the scoped PDU is the last field of the message, so it fits if the message does
  obtain ⟨c, rfl, hread⟩ := C05_v3_scoped (Emit.probeParams rid) ⟨.get, rid, 0, 0, []⟩ (List.forall_mem_nil _) sb hsb
    hs.content.right
  refine ⟨c, ?_, ?_⟩
  · rw [C05_v3_request (Emit.probeParams rid) 48 c hs]
    simp only [Emit.probeParams, hm, hf]
  · rw [hread]
    simp only [Emit.probeParams, Emit.pduClass, request_tags.1]

/- non-vacuity: the hypotheses are met by an ordinary request -/
example : ReqOk [([1, 3, 6, 1, 2, 1], .null), ([1, 3, 6, 1, 4, 1, 4294967295], .str [104, 105])] := by
  refine List.forall_mem_cons.mpr ⟨?_, List.forall_mem_singleton.mpr ?_⟩
  · exact ⟨⟨1, 3, [6, 1, 2, 1], rfl, by omega, by omega⟩, trivial⟩
  · exact ⟨⟨1, 3, [6, 1, 4, 1, 4294967295], rfl, by omega, by omega⟩, (by decide : 2 < 256 ^ 126)⟩

end Snmp.Props.C05
