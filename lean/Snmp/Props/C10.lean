/-
  C10 — USM interop: requests verify under RFC 3414, authentic responses are accepted.
  Model: `Snmp.Usm.generate` / `processIncoming`, generated flag code and `is_confirmed` table.
-/
import Snmp.Lemmas.UsmLemmas
import Snmp.Lemmas.RawDigestLemmas
import Snmp.Lemmas.V3GlueLemmas
import Snmp.Props.C06
namespace Snmp.Props.C10
open Snmp Snmp.Usm Snmp.Ber

/-- msgFlags state exactly the security level of the credentials (generated `V3Flags.__bytes__`) -/
theorem C10_flags (c : Creds) (reportable : Bool) :
    flagsOf c reportable = (if c.auth.isSome then 1 else 0) + (if c.priv.isSome then 2 else 0) + (if reportable then 4 else 0) := by
  unfold flagsOf Gen.flagsEncode
  cases c.auth.isSome <;> cases c.priv.isSome <;> cases reportable <;> decide

/-- confirmed-class requests — get, get-next, get-bulk, set — are marked reportable
    (over the generated list of PDU classes `is_confirmed` accepts) -/
theorem C10_reportable : ∀ k : Ops.ReqKind, isConfirmed k = true := by
  intro k; cases k <;> decide

/-- the security parameters carry the discovered engine id, boots and time and the user name; the
    message id is the request id; the context engine id defaults to the discovered engine id -/
theorem C10_secparams (cr : Crypto) (c : Creds) (d : Disco) (ce cn : Bytes) (r : Ops.PduReq)
    (p : Emit.V3Params) (md dg : Bytes) (h : generate cr c d ce cn r = some (p, md, dg)) :
    p.engineId = d.engineId ∧ p.boots = d.boots ∧ p.time = d.time ∧ p.user = c.user ∧ p.msgId = r.requestId ∧
    p.flags = flagsOf c (isConfirmed r.kind) ∧ p.ctxEngine = (if ce == [] then d.engineId else ce) ∧ p.ctxName = cn ∧
    dg = Emit.v3Around p md := by
  rcases generate_some h with ⟨spdu, _, _, hp, hdg⟩
  -- the two security steps fill in the authentication / privacy parameters of `baseParams` and nothing else
  obtain ⟨ap, ha⟩ := authStep_eq cr c d (encryptStep cr c d (baseParams c d ce cn r) spdu).1 md
  obtain ⟨pp, he⟩ := encryptStep_eq cr c d (baseParams c d ce cn r) spdu
  subst hp
  rw [ha, he] at hdg ⊢
  exact ⟨rfl, rfl, rfl, rfl, rfl, rfl, rfl, rfl, hdg⟩

/-- The digest in the datagram is the MAC, under the user's localised key, of the datagram as
    sent with the authentication parameters replaced by twelve zero octets (same message, same
    privacy parameters, same msgData — the ciphertext when privacy is in use). -/
theorem C10_digest_over_sent_bytes (cr : Crypto) (c : Creds) (pw : Bytes) (hc : c.auth = some pw) (d : Disco)
    (ce cn : Bytes) (r : Ops.PduReq) (p : Emit.V3Params) (md dg : Bytes)
    (h : generate cr c d ce cn r = some (p, md, dg)) :
    p.authParams = cr.mac (cr.loc pw d.engineId) (Emit.v3Around { p with authParams := zeros12 } md) ∧
    dg = Emit.v3Around p md := by
  rcases generate_some h with ⟨spdu, _, _, hp, hdg⟩
  refine ⟨?_, hdg⟩
  rw [hp, authStep_auth cr hc]

/-- The datagram and the MAC input differ only in the twelve digest octets: there are a prefix
    and a suffix, the same for every 12-octet authentication parameter — zeroing the digest octets
    of the datagram in place yields exactly the octets the digest was computed over. -/
theorem C10_digest_in_place (p : Emit.V3Params) (md : Bytes) :
    ∃ pre post, ∀ ap : Bytes, ap.length = 12 →
      Emit.v3Around { p with authParams := ap } md = pre ++ ap ++ post := by
  -- the digest field, inside the parameter SEQUENCE, inside an OCTET STRING, inside the message
  have z : RawDigest.zeros12.length = 12 := rfl
  have hsp := RawDigest.hole_tlv encodeLength (RawDigest.hole_wrap (RawDigest.hole_tlv encodeLength (RawDigest.hole_id 12) 4 _ z)
    (Ber.tlv 4 p.engineId ++ Ber.tlv 2 (intEncode p.boots) ++ Ber.tlv 2 (intEncode p.time) ++ Ber.tlv 4 p.user) (Ber.tlv 4 p.privParams))
    48 _ z
  obtain ⟨pre, post, -, h⟩ := RawDigest.hole_tlv encodeLength (RawDigest.hole_wrap (RawDigest.hole_tlv encodeLength hsp 4 _ z)
    (Ber.tlv 2 (intEncode 3) ++ encodeHeader p.msgId p.maxSize p.flags 3) md) 48 _ z
  exact ⟨pre, post, h⟩

/-- An authentic response — the credential's user name, flags stating the credentials' level,
    the digest the agent computed over the octets it sent, the payload encrypted by the same
    plug-in when privacy is in use, no USM error report — is accepted and decoded to its content,
    whatever its total / scoped-PDU / PDU length. -/
theorem C10_accepts_authentic (cr : Crypto) (c : Creds) (im : InMsg) (s : Spec.ScopedPdu)
    (huser : im.m.user = c.user)
    (hauthf : authFlag im.m = c.auth.isSome) (hprivf : privFlag im.m = c.priv.isSome)
    (hdigest : ∀ pw, c.auth = some pw → ∃ z, im.zeroed = some z ∧ im.m.authParams = cr.mac (cr.loc pw im.m.engineId) z)
    (hpayload : extractScoped cr c im.m = .ok s) (hnoerr : hasUsmError s.pdu = false) :
    processIncoming cr c im = .ok s := by
  refine processIncoming_ok.mpr ⟨checkUser_ok.mpr huser, verifyAuth_ok.mpr ?_, hpayload, hnoerr,
    checkLevel_ok.mpr ⟨fun h => hauthf ▸ h, fun h => hprivf ▸ h⟩⟩
  cases ha : c.auth with
  | none => exact .inl (by rw [hauthf, ha]; rfl)
  | some pw =>
    obtain ⟨z, hz, hm⟩ := hdigest pw ha
    exact .inr ⟨pw, z, rfl, hz, hm⟩

theorem flatten_replicate_getElem? (pw : Bytes) (k i : Nat) (hi : i < k * pw.length) :
    ((List.replicate k pw).flatten)[i]? = pw[i % pw.length]? := by
  induction k generalizing i with
  | zero => simp at hi
  | succ k ih =>
    rw [Nat.succ_mul, Nat.add_comm] at hi
    rw [List.replicate_succ, List.flatten_cons]
    by_cases hlt : i < pw.length
    · rw [List.getElem?_append_left hlt, Nat.mod_eq_of_lt hlt]
    · have hge := Nat.le_of_not_lt hlt
      rw [List.getElem?_append_right hge, ih _ (Nat.sub_lt_left_of_lt_add hge hi), ← Nat.mod_eq_sub_mod hge]

/-- The expansion buffer has exactly `n` octets and its `i`-th octet is the `(i mod |password|)`-th
    octet of the password — the 1 MiB buffer of RFC 3414 A.2 for every non-empty password, also
    when its length does not divide 2^20. -/
theorem C10_expand (pw : Bytes) (hne : pw ≠ []) (n : Nat) :
    (expand pw n).length = n ∧ ∀ i, i < n → (expand pw n)[i]? = pw[i % pw.length]? := by
  have hlen : ((List.replicate (n / pw.length + 1) pw).flatten).length = (n / pw.length + 1) * pw.length := by simp
  have hbig : n < (n / pw.length + 1) * pw.length := by
    rw [Nat.mul_comm]; exact Nat.lt_mul_div_succ n (List.length_pos_iff.mpr hne)
  unfold expand
  constructor
  · rw [List.length_take, hlen]; exact Nat.min_eq_left (Nat.le_of_lt hbig)
  · intro i hi
    rw [List.getElem?_take_of_lt hi]
    exact flatten_replicate_getElem? pw _ i (Nat.lt_trans hi hbig)

/-- the localisation buffer is `Ku ++ engineId ++ Ku` with the digest-sized `Ku` -/
theorem C10_localise (ku : Bytes) (padding : Nat) (eid : Bytes) (h : ku.length = padding) :
    localiseBuffer ku padding eid = ku ++ eid ++ ku := by
  unfold localiseBuffer
  rw [← h, List.take_length]

/-- The usmStats counters are ordinary objects: only a Report-PDU (tag octet 0xA8) is searched for
    them (`validate_usm_message`, guard generated into `Gen.usmErrorPduTags`). -/
theorem C10_only_reports_searched (p : Spec.Pdu) (h : p.tag ≠ 168) : hasUsmError p = false := by
  simp [hasUsmError, usmErrorPdu, Gen.usmErrorPduTags, h]

/-- Hence an authentic response (any PDU but a Report) is accepted and decoded to its content
    whatever objects it carries — the agent's own usmStats counters included. -/
theorem C10_accepts_counters (cr : Crypto) (c : Creds) (im : InMsg) (s : Spec.ScopedPdu)
    (huser : im.m.user = c.user)
    (hauthf : authFlag im.m = c.auth.isSome) (hprivf : privFlag im.m = c.priv.isSome)
    (hdigest : ∀ pw, c.auth = some pw → ∃ z, im.zeroed = some z ∧ im.m.authParams = cr.mac (cr.loc pw im.m.engineId) z)
    (hpayload : extractScoped cr c im.m = .ok s) (hresp : s.pdu.tag ≠ 168) :
    processIncoming cr c im = .ok s :=
  C10_accepts_authentic cr c im s huser hauthf hprivf hdigest hpayload (C10_only_reports_searched s.pdu hresp)

/-- non-vacuity: a GetResponse carrying usmStatsNotInTimeWindows is not an error; the same
    bindings in a Report are -/
example : hasUsmError { tag := 162, requestId := 1, a := 0, b := 0, varbinds := [([1, 3, 6, 1, 6, 3, 15, 1, 1, 2, 0], .counter32 7)] } = false
    ∧ hasUsmError { tag := 168, requestId := 1, a := 0, b := 0, varbinds := [([1, 3, 6, 1, 6, 3, 15, 1, 1, 2, 0], .counter32 7)] } = true := by
  decide

/-- `reset_raw_digest` (index arithmetic with `get_value_slice`, mirrored) on EVERY datagram of the
    SNMPv3 shape — any identifier octets, any admissible definite length form at each of the ten
    TLVs it passes, any contents, anything after the message: when the fifth field of the security
    parameters has 12 octets, exactly these are replaced by zeroes and every other octet is kept;
    otherwise the message is refused. (The 127-octet defect `87299d4` was a re-encoding at this
    place; the window is now located in the octets as received.) -/
theorem C10_raw_digest_window (s : RawDigest.Shape) (p : RawDigest.Parts) (d : Bytes) (hok : s.ok p d) :
    RawDigest.resetRawDigest (RawDigest.wire s p d) =
      if d.length = 12 then .ok (RawDigest.wire s p RawDigest.zeros12) else .error .digestLength :=
  RawDigest.reset_wire s p d hok

/-- An authentic response as it arrives: the agent computed the digest over its datagram with
    twelve zero octets in the digest field (RFC 3414 §6.3.1) and sent it with the digest filled
    in, in whatever length forms it likes.  What `verify_authentication` compares is exactly that,
    so the message is accepted and decoded to its content. -/
theorem C10_accepts_wire (cr : Crypto) (c : Creds) (m : Spec.V3Msg) (sc : Spec.ScopedPdu)
    (s : RawDigest.Shape) (p : RawDigest.Parts) (d : Bytes) (hok : s.ok p d)
    (huser : m.user = c.user)
    (hauthf : authFlag m = c.auth.isSome) (hprivf : privFlag m = c.priv.isSome)
    (hfield : m.authParams = d)
    (hagent : ∀ pw, c.auth = some pw → d = cr.mac (cr.loc pw m.engineId) (RawDigest.wire s p RawDigest.zeros12) ∧ d.length = 12)
    (hpayload : extractScoped cr c m = .ok sc) (hnoerr : hasUsmError sc.pdu = false) :
    processIncoming cr c (inMsgOfWire m (RawDigest.wire s p d)) = .ok sc := by
  refine C10_accepts_authentic cr c (inMsgOfWire m (RawDigest.wire s p d)) sc huser hauthf hprivf (fun pw hpw => ?_) hpayload hnoerr
  obtain ⟨hmac, hlen⟩ := hagent pw hpw
  exact ⟨_, zeroed_eq.mpr (by rw [RawDigest.reset_wire s p d hok, if_pos hlen]), hfield.trans hmac⟩

/-- non-vacuity of the shape: the smallest SNMPv3 skeleton (minimal length octets, a 12-octet
    digest) meets the hypotheses -/
example : RawDigest.Shape.ok
      ⟨.minimal, .minimal, .minimal, .minimal, .minimal, .minimal, .minimal, .minimal, .minimal, .minimal, 48, 2, 48, 4, 48, 4, 2, 2, 4, 4⟩
      ⟨[3], [], [], [0], [0], [], [4, 0], [48, 0], []⟩ (List.replicate 12 7) := by
  simp only [RawDigest.Shape.ok, LenForm.ok]
  decide

/-- **From the octets to the fields.**  `Message.decode` + `USMSecurityParameters.decode` (modelled
    over the x690 mirror with its laziness: `V3Glue.v3OfBytes`) on EVERY well-formed SNMPv3 message
    — any admissible definite length form at each of the 21 TLVs of the wrapper, any contents,
    anything behind the message — yield msgID, msgMaxSize, msgFlags, msgSecurityModel and the six USM
    parameters exactly as written; msgData is what `payloadOf` makes of it (next two theorems). -/
theorem C10_fields_from_wire (G : V3Glue.MsgForms) (F : V3Glue.ParamForms) (h : V3Glue.HdrC) (p : UsmParams.Params)
    (boots time : Bytes) (pl : RawTlv) (trailing : Bytes) (fuel : Nat) (dt : Nat) (dc : Bytes)
    (hok : G.ok F h p boots time pl) (hF : F.ok p boots time)
    (hb : p.boots = intDecode true boots) (ht : p.time = intDecode true time)
    (hpay : V3Glue.payloadOf (V3Glue.v3wire G F h p boots time pl trailing) (fromBE h.flg)
      (V3Glue.plNode G F h p boots time pl) fuel = .ok (dt, dc))
    (hfuel : 5 ≤ fuel) :
    V3Glue.v3OfBytes (V3Glue.v3wire G F h p boots time pl trailing) fuel =
      .ok ⟨intDecode true h.mid, intDecode true h.mms, fromBE h.flg, intDecode true h.mdl,
           p.engineId, p.boots, p.time, p.user, p.auth, p.priv, dt, dc⟩ :=
  V3Glue.v3OfBytes_at (V3Glue.wire_at G F h p boots time pl trailing) hok hF hb ht hpay hfuel

/-- msgData with the priv flag set is kept as it is (identifier octet 4 for an OCTET STRING) … -/
theorem C10_payload_encrypted (G : V3Glue.MsgForms) (F : V3Glue.ParamForms) (h : V3Glue.HdrC) (p : UsmParams.Params)
    (boots time : Bytes) (fpl : LenForm) (cipher trailing : Bytes) (fuel flags : Nat) (hpriv : flags / 2 % 2 = 1) :
    V3Glue.payloadOf (V3Glue.v3wire G F h p boots time (V3Glue.tStr fpl cipher) trailing) flags
      (V3Glue.plNode G F h p boots time (V3Glue.tStr fpl cipher)) fuel = .ok (4, cipher) :=
  V3Glue.payload_cipher_at (V3Glue.wire_at ..) hpriv

/-- … and a plain scoped PDU — context engine id, context name and a PDU, each in any form — reaches
    the strict reader as these three with minimal length octets. -/
theorem C10_payload_plain (G : V3Glue.MsgForms) (F : V3Glue.ParamForms) (h : V3Glue.HdrC) (p : UsmParams.Params)
    (boots time : Bytes) (fpl : LenForm) (ce cn pdu : RawTlv) (trailing : Bytes) (fuel flags : Nat)
    (hplain : flags / 2 % 2 = 0) (hoks : ∀ y ∈ [ce, cn, pdu], y.ok) (hfuel : 2 ≤ fuel) :
    V3Glue.payloadOf (V3Glue.v3wire G F h p boots time (V3Glue.tSeq fpl (rawBytes [ce, cn, pdu])) trailing) flags
        (V3Glue.plNode G F h p boots time (V3Glue.tSeq fpl (rawBytes [ce, cn, pdu]))) fuel
      = .ok (48, Ber.tlv 4 ce.c ++ Ber.tlv 4 cn.c ++ Ber.tlv pdu.t pdu.c) :=
  V3Glue.payload_scoped_at (V3Glue.wire_at ..) hplain hoks hfuel

/-- **An authentic response is accepted, from the octets on.**  The agent writes an SNMPv3 message —
    any admissible definite length form at every level, anything behind it — whose digest field
    holds the MAC, under the user's localised key, of the same datagram with twelve zero octets in
    that field; user name and msgFlags are those of the credentials; msgData is what the payload
    step hands on (`hpay`) and the USM payload processing reads `sc` from it without a USM error
    report, `sc` carrying a PDU.  Then `V3MPM.decode` as modelled from the raw datagram — glue
    (`Message.decode`, `USMSecurityParameters.decode`), `reset_raw_digest`, `process_incoming_message`
    — returns exactly `sc`. -/
theorem C10_accepts_datagram (cr : Crypto) (c : Creds)
    (G : V3Glue.MsgForms) (F : V3Glue.ParamForms) (h : V3Glue.HdrC) (p : UsmParams.Params) (boots time : Bytes)
    (pl : RawTlv) (trailing : Bytes) (fuel : Nat) (dt : Nat) (dc : Bytes) (sc : Spec.ScopedPdu)
    (hok : G.ok F h p boots time pl) (hF : F.ok p boots time)
    (hb : p.boots = intDecode true boots) (ht : p.time = intDecode true time) (hfuel : 5 ≤ fuel)
    (hpay : V3Glue.payloadOf (V3Glue.v3wire G F h p boots time pl trailing) (fromBE h.flg)
      (V3Glue.plNode G F h p boots time pl) fuel = .ok (dt, dc))
    (huser : p.user = c.user)
    (hauthf : (fromBE h.flg % 2 == 1) = c.auth.isSome) (hprivf : (fromBE h.flg / 2 % 2 == 1) = c.priv.isSome)
    (hagent : ∀ pw, c.auth = some pw → p.auth.length = 12 ∧
      p.auth = cr.mac (cr.loc pw p.engineId)
        (V3Glue.v3wire G F h { p with auth := RawDigest.zeros12 } boots time pl trailing))
    (hpayload : extractScoped cr c ⟨intDecode true h.mid, intDecode true h.mms, fromBE h.flg, intDecode true h.mdl,
        p.engineId, p.boots, p.time, p.user, p.auth, p.priv, dt, dc⟩ = .ok sc)
    (hnoerr : hasUsmError sc.pdu = false) (hpdu : (lookup sc.pdu.tag).kind = "pdu") :
    V3Glue.incoming cr c (V3Glue.v3wire G F h p boots time pl trailing) fuel = .ok sc := by
  refine incoming_ok.mpr ⟨_, C10_fields_from_wire G F h p boots time pl trailing fuel dt dc hok hF hb ht hpay hfuel, ?_, hpdu⟩
  refine C10_accepts_authentic cr c _ sc huser hauthf hprivf (fun pw hpw => ?_) hpayload hnoerr
  exact ⟨_, zeroed_eq.mpr (by rw [V3Glue.reset_v3wire trailing hok hF, if_pos (hagent pw hpw).1]),
    (hagent pw hpw).2⟩

/-- **An authentic response carrying any PDU the agent writes, from the octets on** (no privacy).
    The three layers composed: the scoped PDU holds context engine id, context name and a PDU written
    in any admissible length forms with any bindings (`Glue.WritesPdu`, standard identifier octets for
    binding list and bindings, not a Report); the wrapper is in any length forms, anything may follow
    the message; the digest field holds the MAC of the datagram with that field zeroed.  Then
    `V3MPM.decode` as modelled from the raw datagram returns the scoped PDU whose PDU is exactly the
    record the agent meant — request-id, error fields and bindings — which is also what
    `PDU.decode_raw` reads from the same octets (`C06_v3_pdu_readback`). -/
theorem C10_accepts_written_pdu (cr : Crypto) (c : Creds)
    (G : V3Glue.MsgForms) (F : V3Glue.ParamForms) (h : V3Glue.HdrC) (p : UsmParams.Params) (boots time : Bytes)
    (fpl fe fn : LenForm) (e nm : Bytes) (ep : Enc) (cls : String) (pr : Ops.PduResp) (trailing : Bytes) (fuel : Nat)
    (hw : Glue.WritesPdu ep cls pr) (hstd : Glue.StdPdu ep)
    (hok : G.ok F h p boots time (V3Glue.tSeq fpl (rawBytes [V3Glue.tStr fe e, V3Glue.tStr fn nm, Glue.rawOf ep])))
    (hF : F.ok p boots time) (hb : p.boots = intDecode true boots) (ht : p.time = intDecode true time) (hfuel : 5 ≤ fuel)
    (hfe : fe.ok e.length) (hfn : fn.ok nm.length)
    (hs : Spec.Small e.length ∧ Spec.Small nm.length ∧ Spec.Small (Glue.rawOf ep).c.length)
    (hplain : fromBE h.flg / 2 % 2 = 0) (huser : p.user = c.user)
    (hauthf : (fromBE h.flg % 2 == 1) = c.auth.isSome) (hprivf : (fromBE h.flg / 2 % 2 == 1) = c.priv.isSome)
    (hagent : ∀ pw, c.auth = some pw → p.auth.length = 12 ∧
      p.auth = cr.mac (cr.loc pw p.engineId)
        (V3Glue.v3wire G F h { p with auth := RawDigest.zeros12 } boots time
          (V3Glue.tSeq fpl (rawBytes [V3Glue.tStr fe e, V3Glue.tStr fn nm, Glue.rawOf ep])) trailing))
    (hnotreport : usmErrorPdu (Glue.rawOf ep).t = false) :
    V3Glue.incoming cr c (V3Glue.v3wire G F h p boots time
        (V3Glue.tSeq fpl (rawBytes [V3Glue.tStr fe e, V3Glue.tStr fn nm, Glue.rawOf ep])) trailing) fuel
      = .ok ⟨e, nm, ⟨(Glue.rawOf ep).t, pr.requestId, pr.errorStatus, pr.errorIndex, pr.varbinds⟩⟩ := by
  obtain ⟨⟨hwf, _⟩, hscoped⟩ := C06.C06_v3_pdu_readback ep cls pr hw hstd e nm hs
  have hkind : (lookup (Glue.rawOf ep).t).kind = "pdu" := by
    obtain ⟨f, t, fl, tl, erid, ees, eei, items, rfl, -, -, hk, -⟩ := hw
    exact hk
  have hpay := C10_payload_plain G F h p boots time fpl (V3Glue.tStr fe e) (V3Glue.tStr fn nm) (Glue.rawOf ep) trailing fuel
    (fromBE h.flg) hplain (Reenc.scopedItems_ok hfe hfn (rawOf_ok ep hwf)) (by omega)
  refine C10_accepts_datagram cr c G F h p boots time _ trailing fuel 48 _ _ hok hF hb ht hfuel hpay huser hauthf hprivf hagent ?_ ?_ hkind
  · -- the payload step: plain scoped PDU, read by the strict reader
    exact (extractScoped_plain (show (48 : Nat) ≠ 4 by decide)).mpr ⟨by simp [privFlag, hplain], hscoped⟩
  · simp [hasUsmError, hnotreport]

/-- non-vacuity: a noAuthNoPriv response with minimal length octets meets the well-formedness
    hypotheses of `C10_fields_from_wire` / `C10_accepts_datagram`, and its payload step is the plain one -/
example :
    let G : V3Glue.MsgForms := ⟨.minimal, .minimal, .minimal, .minimal, .minimal, .minimal, .minimal, .minimal, .minimal⟩
    let F : V3Glue.ParamForms := ⟨.minimal, .minimal, .minimal, .minimal, .minimal, .minimal⟩
    let h : V3Glue.HdrC := ⟨[3], [1], [0, 255, 227], [0], [3]⟩
    let p : UsmParams.Params := ⟨[128, 0, 31, 136, 1], 3, 9, [117], [], []⟩
    let pdu : RawTlv := ⟨.minimal, 162, [2, 1, 1, 2, 1, 0, 2, 1, 0, 48, 0]⟩
    let pl := V3Glue.tSeq .minimal (rawBytes [V3Glue.tStr .minimal [128, 0, 31, 136, 1], V3Glue.tStr .minimal [], pdu])
    G.ok F h p [3] [9] pl ∧ F.ok p [3] [9] ∧ p.boots = intDecode true [3] ∧ fromBE h.flg / 2 % 2 = 0 := by
  intro G F h p pdu pl
  simp only [V3Glue.MsgForms.ok, V3Glue.ParamForms.ok, RawTlv.ok, V3Glue.tSeq, LenForm.ok, lookup_seq, G, F, pl, pdu]
  decide

/-- The RFC reading of the same datagram: the strict specification reader (`Spec.readV3Msg`, written
    from RFC 3412 / 3414 independently of the x690 mirror) extracts from every well-formed message —
    version 3, one flags octet, non-empty integers, any length forms — exactly the ten header / USM
    fields that `C10_fields_from_wire` shows the library's glue to extract, and msgData as it
    travels.  Library reading and RFC reading of a well-formed SNMPv3 message coincide. -/
theorem C10_spec_reads_wire (G : V3Glue.MsgForms) (F : V3Glue.ParamForms) (h : V3Glue.HdrC) (p : UsmParams.Params)
    (boots time : Bytes) (pl : RawTlv) (fl : Nat)
    (hok : G.ok F h p boots time pl) (hF : F.ok p boots time)
    (hb : p.boots = intDecode true boots) (ht : p.time = intDecode true time)
    (hver : h.ver ≠ [] ∧ intDecode true h.ver = 3) (hflg : h.flg = [fl])
    (hne : h.mid ≠ [] ∧ h.mms ≠ [] ∧ h.mdl ≠ [] ∧ boots ≠ [] ∧ time ≠ []) :
    Spec.readV3Msg (V3Glue.v3wire G F h p boots time pl []) =
      some ⟨intDecode true h.mid, intDecode true h.mms, fl, intDecode true h.mdl,
            p.engineId, p.boots, p.time, p.user, p.auth, p.priv, pl.t, pl.c⟩ := by
  obtain ⟨n1, n2, n3, n4, n5⟩ := hne
  have hsb : Spec.readTLV (V3Glue.spBlock G F p boots time) = some (48, rawBytes (V3Glue.paramItems F p boots time), []) := by
    simpa [V3Glue.spBlock] using Spec.readTLV_spec G.fsi 48 (rawBytes (V3Glue.paramItems F p boots time)) [] hok.inner
  have hIr := Spec.readSeq_raw _ (fun x hx => (V3Glue.msgItems_ok hok x hx).1)
  have hHr := Spec.readSeq_raw _ (fun x hx => (V3Glue.hdrItems_ok hok x hx).1)
  have hPr := Spec.readSeq_raw _ (fun x hx => (V3Glue.paramItems_ok hF x hx).1)
  simp only [V3Glue.msgItems, V3Glue.hdrItems, V3Glue.paramItems, List.map_cons, List.map_nil, V3Glue.tInt, V3Glue.tSeq,
    V3Glue.tStr, hflg] at hIr hHr hPr
  unfold Spec.readV3Msg
  rw [V3Glue.v3wire, Spec.readTLV_spec G.f0 48 _ [] hok.1]
  simp only [V3Glue.msgItems, V3Glue.hdrItems, V3Glue.paramItems, V3Glue.tInt, V3Glue.tSeq, V3Glue.tStr, hflg, hIr, Spec.readInt,
    hver.1, ↓reduceIte, hver.2, hHr, hsb, hPr, n1, n2, n3, n4, n5]
  simp [hb, ht]

end Snmp.Props.C10
