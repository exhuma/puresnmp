/-
  C15 — the pythonic wrapper returns only built-in Python types, equal to the element-wise
  pythonisation of the raw result.  Model: `Snmp.Model.Pyth`.
-/
import Snmp.Gen.Facts
import Snmp.Model.Pyth
namespace Snmp.Props.C15
open Snmp.Pyth

theorem pythonize_builtin (v : Val) : builtin (pythonize v) = true := by
  cases v <;> rfl

theorem builtinList_eq (l : List PyVal) : builtinList l = l.all builtin := by
  induction l with
  | nil => rfl
  | cons x xs ih => simp [builtinList, ih]

theorem builtinPairs_eq (l : List (PyVal × PyVal)) : builtinPairs l = l.all fun p => builtin p.1 && builtin p.2 := by
  induction l with
  | nil => rfl
  | cons p xs ih => cases p; simp [builtinPairs, ih]

/-- the raw client's result as a Python object -/
inductive Raw where
  | val (v : Val)
  | oid (o : Oid)
  | str (s : String)
  | list (l : List Raw)
  | tuple (l : List Raw)
  | dict (l : List (Raw × Raw))

mutual
/-- element-wise pythonisation (specification side) -/
def spec : Raw → PyVal
  | .val v => pythonize v
  | .oid o => .str (dotted o)
  | .str s => .str s
  | .list l => .list (specList l)
  | .tuple l => .tuple (specList l)
  | .dict l => .dict (specPairs l)
def specList : List Raw → List PyVal
  | [] => []
  | x :: xs => spec x :: specList xs
def specPairs : List (Raw × Raw) → List (PyVal × PyVal)
  | [] => []
  | (k, v) :: xs => (spec k, spec v) :: specPairs xs
end

theorem specList_eq (l : List Raw) : specList l = l.map spec := by
  induction l with
  | nil => rfl
  | cons x xs ih => simp [specList, ih]

theorem specPairs_eq (l : List (Raw × Raw)) : specPairs l = l.map fun p => (spec p.1, spec p.2) := by
  induction l with
  | nil => rfl
  | cons p xs ih => cases p; simp [specPairs, ih]

def rawVarBind (vb : VarBind) : Raw := .tuple [.oid vb.1, .val vb.2]
def rawDict (d : List VarBind) : Raw := .dict (d.map fun p => (.oid p.1, .val p.2))
/-- `tablify` puts the index under "0" first, then the cells -/
def rawRow (r : RawRow) : List (Raw × Raw) := (.str "0", .str r.index) :: r.cells.map fun c => (.str c.1, .val c.2)

/-- Every wrapper result equals the element-wise pythonisation of what the raw client returned
    for the same exchange (table rows as dictionaries: same items, the index key moved last). -/
theorem C15_equals_pythonised :
    (∀ raw, Pyth.get raw = spec (.val raw)) ∧
    (∀ raw, getnext raw = spec (rawVarBind raw)) ∧
    (∀ raw, multiget raw = spec (.list (raw.map .val))) ∧
    (∀ raw, multiset raw = spec (rawDict raw)) ∧
    (∀ oid raw r, Pyth.set oid raw = some r → ∃ p ∈ raw, dotted p.1 = dotted oid ∧ r = spec (.val p.2)) ∧
    (∀ raw, walk raw = spec (.list (raw.map rawVarBind))) ∧
    (∀ s l, bulkget s l = spec (.tuple [rawDict s, rawDict l])) ∧
    (∀ r, ∃ items, tableRow r = .dict items ∧ items.Perm (specPairs (rawRow r))) := by
  refine ⟨fun _ => by simp [Pyth.get, spec], fun _ => by simp [getnext, pyVarBind, rawVarBind, spec, specList],
    ?_, ?_, ?_, ?_, ?_, ?_⟩
  · intro raw; simp [multiget, spec, specList_eq]
  · intro raw; simp [multiset, rawDict, spec, specPairs_eq]
  · intro oid raw r h
    simp only [Pyth.set, Option.map_eq_some_iff] at h
    rcases h with ⟨p, hp, rfl⟩
    have := List.find?_some hp
    exact ⟨p, List.mem_of_find?_eq_some hp, by simpa using this, by simp [spec]⟩
  · intro raw; simp [walk, spec, specList_eq, rawVarBind, pyVarBind]
  · intro s l; simp [bulkget, rawDict, spec, specList_eq, specPairs_eq]
  · intro r
    refine ⟨_, rfl, ?_⟩
    simp only [rawRow, specPairs_eq, List.map_cons, List.map_map, spec]
    exact List.perm_append_singleton _ _

mutual
/-- Element-wise pythonisation yields built-in types only, whatever the raw object is made of. -/
theorem spec_builtin : ∀ r : Raw, builtin (spec r) = true
  | .val v => pythonize_builtin v
  | .oid _ => rfl
  | .str _ => rfl
  | .list l => by rw [spec, builtin]; exact specList_builtin l
  | .tuple l => by rw [spec, builtin]; exact specList_builtin l
  | .dict l => by rw [spec, builtin]; exact specPairs_builtin l
theorem specList_builtin : ∀ l : List Raw, builtinList (specList l) = true
  | [] => rfl
  | x :: xs => by rw [specList, builtinList, spec_builtin x, specList_builtin xs]; rfl
theorem specPairs_builtin : ∀ l : List (Raw × Raw), builtinPairs (specPairs l) = true
  | [] => rfl
  | (k, v) :: xs => by rw [specPairs, builtinPairs, spec_builtin k, spec_builtin v, specPairs_builtin xs]; rfl
end

/-- Whatever the raw client returned, every wrapper method hands out built-in types only —
    str OIDs, int, bytes, timedelta, IPv4Address, None and lists / tuples / dicts of these,
    dictionary keys included. -/
theorem C15_builtin_only :
    (∀ raw, builtin (Pyth.get raw) = true) ∧
    (∀ raw, builtin (getnext raw) = true) ∧
    (∀ raw, builtin (multiget raw) = true) ∧
    (∀ raw, builtin (multiset raw) = true) ∧
    (∀ oid raw r, Pyth.set oid raw = some r → builtin r = true) ∧
    (∀ raw, builtin (walk raw) = true) ∧
    (∀ s l, builtin (bulkget s l) = true) ∧
    (∀ raw, builtin (table raw) = true) := by
  -- each result is `spec` of something (`C15_equals_pythonised`), and `spec` of anything is built-in
  obtain ⟨h1, h2, h3, h4, h5, h6, h7, h8⟩ := C15_equals_pythonised
  refine ⟨fun r => h1 r ▸ spec_builtin _, fun r => h2 r ▸ spec_builtin _, fun r => h3 r ▸ spec_builtin _,
    fun r => h4 r ▸ spec_builtin _, fun oid raw r h => ?_, fun r => h6 r ▸ spec_builtin _,
    fun s l => h7 s l ▸ spec_builtin _, fun raw => ?_⟩
  · obtain ⟨p, _, _, rfl⟩ := h5 oid raw r h
    exact spec_builtin _
  · rw [table, builtin, builtinList_eq, List.all_map, List.all_eq_true]
    intro r _
    -- a row has the items of a pythonised dictionary in another order
    obtain ⟨items, he, hp⟩ := h8 r
    rw [Function.comp, he, builtin, builtinPairs_eq, hp.all_eq, ← builtinPairs_eq]
    exact specPairs_builtin _

/- non-vacuity: a value of every kind goes through, and the universe does contain leaks -/
example : builtin (.dict [(.leak "ObjectIdentifier", .int 1)]) = false := by decide
example : multiget [.ticks 4242, .ip [192, 0, 2, 1], .oid [1, 3, 6]] =
    .list [.timedelta 42420000, .ipv4 3221225985, .str "1.3.6"] := by
  simp [multiget, pythonize, fromBE, dotted]; decide


/-- every `PyWrapper` method that delegates to the raw client's method of the same name hands every
    one of its parameters on — directly or through a local computed from it (shape of the code,
    generated; seeded C15-53 dropped `errors` on the way): the wrapper results are functions of the raw
    results of the SAME call -/
theorem C15_delegation_shape : Snmp.Gen.pyWrapperPassesArgs = true := by decide

end Snmp.Props.C15
