/-
  C11 — USM privacy: the scoped PDU only ever travels as the plug-in's ciphertext.
  Model: `Snmp.Usm.generate` / `extractScoped`, for every privacy plug-in `(enc, dec)`.
-/
import Snmp.Gen.Facts
import Snmp.Lemmas.UsmLemmas
import Snmp.Props.C05
import Snmp.Props.C09
namespace Snmp.Props.C11
open Snmp Snmp.Usm

/-- With privacy credentials the msgData field of the datagram is `OCTET STRING ciphertext`,
    where the ciphertext is what the plug-in returned for the serialised scoped PDU under the
    privacy pass-phrase localised to the discovered engine id (with the user's authentication
    hash: `loc`) and the discovered boots / time; the plug-in's salt is msgPrivacyParameters. -/
theorem C11_wire (cr : Crypto) (c : Creds) (pp : Bytes) (hc : c.priv = some pp) (d : Disco) (ce cn : Bytes)
    (r : Ops.PduReq) (p : Emit.V3Params) (md dg : Bytes) (h : generate cr c d ce cn r = some (p, md, dg)) :
    ∃ spdu, Emit.scopedBytes (baseParams c d ce cn r) r = some spdu ∧
      md = Ber.tlv 4 (cr.enc (cr.loc pp d.engineId) d.engineId d.boots d.time spdu).1 ∧
      p.privParams = (cr.enc (cr.loc pp d.engineId) d.engineId d.boots d.time spdu).2 ∧
      dg = Emit.v3Around p md := by
  rcases generate_some h with ⟨spdu, hs, hmd, hp, hdg⟩
  obtain ⟨ap, ha⟩ := authStep_eq cr c d (encryptStep cr c d (baseParams c d ce cn r) spdu).1 md
  refine ⟨spdu, hs, ?_, ?_, hdg⟩
  · rw [hmd, encryptStep_priv cr hc]
  · rw [hp, ha, encryptStep_priv cr hc]

/-- …and an independent reader finds exactly that in the datagram: identifier octet 4 and the
    ciphertext as msgData, the salt as privacy parameters — no other field carries the scoped PDU. -/
theorem C11_wire_read (p : Emit.V3Params) (cipher : Bytes)
    (hs : Spec.Small (Emit.v3Around p (Ber.tlv 4 cipher)).length) :
    Spec.readV3Msg (Emit.v3Around p (Ber.tlv 4 cipher)) =
      some ⟨p.msgId, p.maxSize, p.flags, 3, p.engineId, p.boots, p.time, p.user, p.authParams, p.privParams, 4, cipher⟩ :=
  C05.C05_v3_request p 4 cipher hs

/-- the datagram depends on the scoped PDU only through the plug-in's output: two requests whose
    ciphertext and salt coincide produce the same datagram (nothing of the plaintext leaks) -/
theorem C11_only_ciphertext (cr : Crypto) (c : Creds) (pp : Bytes) (hc : c.priv = some pp) (d : Disco) (ce cn : Bytes)
    (r r' : Ops.PduReq) (p p' : Emit.V3Params) (md md' dg dg' : Bytes)
    (h : generate cr c d ce cn r = some (p, md, dg)) (h' : generate cr c d ce cn r' = some (p', md', dg'))
    (hrid : r.requestId = r'.requestId) (hkind : isConfirmed r.kind = isConfirmed r'.kind)
    (henc : ∀ s s', Emit.scopedBytes (baseParams c d ce cn r) r = some s →
      Emit.scopedBytes (baseParams c d ce cn r') r' = some s' →
      cr.enc (cr.loc pp d.engineId) d.engineId d.boots d.time s = cr.enc (cr.loc pp d.engineId) d.engineId d.boots d.time s') :
    dg = dg' := by
  rcases generate_some h with ⟨s, hs, hmd, hp, hdg⟩
  rcases generate_some h' with ⟨s', hs', hmd', hp', hdg'⟩
  have he := henc s s' hs hs'
  have hbase : baseParams c d ce cn r = baseParams c d ce cn r' := by
    simp [baseParams, hrid, hkind]
  have hstep : encryptStep cr c d (baseParams c d ce cn r') s' = encryptStep cr c d (baseParams c d ce cn r) s := by
    rw [encryptStep_priv cr hc, encryptStep_priv cr hc, he, hbase]
  rw [hdg, hdg', hp, hp', hmd, hmd', hstep]

/-- Encrypted responses are decrypted with the privacy key localised to the engine id found in
    the message and the boots / time / salt found in the message (see also `C09_accept_priv`). -/
theorem C11_incoming (cr : Crypto) (c : Creds) (pp : Bytes) (hc : c.priv = some pp) (im : InMsg)
    (s : Spec.ScopedPdu) (h : processIncoming cr c im = .ok s) :
    ∃ plain sc rest,
      cr.dec (cr.loc pp im.m.engineId) im.m.engineId im.m.boots im.m.time im.m.privParams im.m.data = some plain ∧
      Spec.readTLV plain = some (48, sc, rest) ∧ Spec.readScoped sc = some s :=
  (C09.C09_accept_priv cr c pp hc im s h).2.2

/-- Any plug-in whose decrypt inverts its encrypt round-trips: a payload encrypted by the peer
    with the same key and the parameters it put into the message is recovered exactly. -/
theorem C11_roundtrip (cr : Crypto) (c : Creds) (pp : Bytes) (hc : c.priv = some pp) (m : Spec.V3Msg)
    (s : Spec.ScopedPdu) (plain sc rest : Bytes)
    (hinv : ∀ k e b t x, cr.dec k e b t (cr.enc k e b t x).2 (cr.enc k e b t x).1 = some x)
    (hflag : privFlag m = true) (htag : m.dataTag = 4)
    (hdata : m.data = (cr.enc (cr.loc pp m.engineId) m.engineId m.boots m.time plain).1)
    (hsalt : m.privParams = (cr.enc (cr.loc pp m.engineId) m.engineId m.boots m.time plain).2)
    (hparse : Spec.readTLV plain = some (48, sc, rest)) (hs : Spec.readScoped sc = some s) :
    extractScoped cr c m = .ok s :=
  (extractScoped_cipher htag).mpr ⟨hflag, pp, plain, sc, rest, hc, by rw [hdata, hsalt]; exact hinv _ _ _ _ _, hparse, hs⟩


/-- the engine the privacy key is localised to is the discovered (authoritative) one, never the
    context engine named by the caller (shape of `V3MPM.encode`, generated) -/
theorem C11_engine_id_shape : Snmp.Gen.securityEngineIsDiscovered = true := by decide

end Snmp.Props.C11
