/-
  C03 — walks terminate and never re-request, whatever the agent answers.  Property theorems
  about the Python-faithful model (`Snmp.Walk`), for an *arbitrary* exchange function.
-/
import Snmp.Gen.Facts
import Snmp.Model.Walk
import Snmp.Lemmas.WalkBound
namespace Snmp.Props.C03
open Snmp Snmp.Walk

/-- Whatever the agent answers, a response accepted by the GETNEXT fetcher advances strictly
    beyond every OID it was requested for (position by position). -/
theorem C03_getnext_progress (x : Exchange) (oids : List Oid) (out : List VarBind)
    (h : multigetnext x oids = .ok out) :
    ∀ p ∈ oids.zip out, p.1 < p.2.1 :=
  let ⟨_, _, _, _, hlt⟩ := multigetnext_ok_iff.mp h
  hlt

/-- The bulk fetcher never hands a non-advancing first repetition to the walk loop. -/
theorem C03_bulk_progress_first (x : Exchange) (size : Nat) (oids : List Oid) (vb : VarBind)
    (rest : List VarBind) (h : bulkFetcher x size oids = .ok (vb :: rest)) :
    ∃ p, oids[0 % oids.length]? = some p ∧ p < vb.1 := by
  obtain ⟨_, _, _, _, _, hc⟩ := bulkFetcher_ok_iff.mp h
  cases oids with
  | nil => simp [checkColumns] at hc
  | cons o os =>
    -- `checkColumns_iff` at position 0
    exact ⟨o, by simp, (checkColumns_iff (o :: os) _).mp hc 0 o vb rfl rfl⟩

/-- A fetch that reports a non-advancing answer ends the loop at once: `faulty` in strict
    mode, normal end in lenient mode, and no further request is issued. -/
theorem C03_outcome_on_faulty (fetch : Fetcher) (roots : List Oid) (lenient : Bool) (fuel : Nat)
    (unf : List (Oid × VarBind)) (yielded : List Oid) (ev : List Event)
    (hne : unf ≠ []) (hf : fetch (unf.map (·.2.1)) = .error .faulty) :
    loop fetch roots lenient (fuel + 1) unf yielded ev =
      ⟨ev ++ [.req (unf.map (·.2.1))], if lenient then .done else .error .faulty⟩ := by
  rw [loop_error hne lenient fuel yielded ev hf]
  cases lenient <;> rfl

/-- Same for the very first request of a walk. -/
theorem C03_outcome_on_faulty_first (fetch : Fetcher) (oids : List Oid) (lenient : Bool) (fuel : Nat)
    (hf : fetch (sortOids oids) = .error .faulty) :
    multiwalk fetch oids lenient fuel =
      ⟨[.req (sortOids oids)], if lenient then .done else .error .faulty⟩ := by
  rw [multiwalk_error lenient fuel hf]
  cases lenient <;> rfl

/-- A response of the right length in which some binding (before the first endOfMibView) does not
    advance beyond the OID it answers is refused with `FaultySNMPImplementation`. -/
theorem C03_nonadvancing_is_faulty (x : Exchange) (oids : List Oid) (resp : List VarBind)
    (hx : x (.getnext oids) = .ok resp) (hlen : resp.length = oids.length)
    (hbad : ∃ p ∈ oids.zip (resp.takeWhile notEom), ¬ p.1 < p.2.1) :
    multigetnext x oids = .error .faulty := by
  unfold multigetnext
  simp only [hx, bind, Except.bind, hlen, bne_self_eq_false, Bool.false_eq_true, ↓reduceIte]
  have : ((oids.zip (resp.takeWhile notEom)).all fun p => decide (p.1 < p.2.1)) = false := by
    rw [List.all_eq_false]
    obtain ⟨p, hp, hn⟩ := hbad
    exact ⟨p, hp, mt of_decide_eq_true hn⟩
  simp [this]; rfl

/-- **Bounded, never re-requesting — for ANY agent.**  `x` is an arbitrary exchange function (it may
    repeat OIDs, go backwards, cycle, jump out of the subtree and back, answer endOfMibView
    anywhere, fail); `U` is any list containing every OID it ever returns to a GETNEXT.  For
    pairwise disjoint roots in any order, strict or lenient mode:
    * no OID occurs twice among all the OIDs the walk requests (the client never asks again for an
      OID it has already continued from);
    * every OID requested after the first request was returned by the agent to an earlier request;
    * the number of requests is at most `|U| + 1`;
    * with a loop budget above `|U|` the walk ends by itself (`done` or an error, never the budget). -/
theorem C03_getnext_bound (x : Exchange) (roots : List Oid) (lenient : Bool) (fuel : Nat) (U : List Oid)
    (hpf : PrefixFree roots)
    (hU : ∀ q resp, x (.getnext q) = .ok resp → ∀ vb ∈ resp, vb.1 ∈ U) :
    let r := walkGetnext x roots lenient fuel
    r.requests.flatten.Nodup ∧
    (∀ q ∈ r.requests.tail, ∀ c ∈ q, ∃ q' ∈ r.requests, ∃ resp, x (.getnext q') = .ok resp ∧ c ∈ resp.map (·.1)) ∧
    r.requests.length ≤ U.length + 1 ∧
    (U.length < fuel → r.outcome ≠ .outOfFuel) :=
  walk_bound (multigetnext x) _ (multigetnext_advances x) U
    (fun q c ⟨resp, hx, hc⟩ => by obtain ⟨vb, hvb, rfl⟩ := List.mem_map.mp hc; exact hU q resp hx vb hvb)
    roots lenient fuel hpf

/-- **The same for the bulk walk — for ANY agent.**  `x` is an arbitrary exchange function, `U` any
    list containing every OID it ever returns to a GETBULK; any repetition count, pairwise disjoint
    roots in any order.  The per-column successor check of the bulk fetcher makes every accepted
    response — any number of repetitions, a partial last one, whatever is in them — advance every
    column (`cc_columns`), hence: no OID occurs twice among the OIDs the walk continues from; every
    OID it continues from after the first request was returned by the agent; at most `|U| + 1`
    fetch rounds; with a loop budget above `|U|` the walk ends by itself. -/
theorem C03_bulk_bound (x : Exchange) (roots : List Oid) (size fuel : Nat) (U : List Oid)
    (hpf : PrefixFree roots)
    (hU : ∀ m q resp, x (.getbulk 0 m q) = .ok resp → ∀ vb ∈ resp, vb.1 ∈ U) :
    let r := walkBulk x size roots fuel
    r.requests.flatten.Nodup ∧
    (∀ q ∈ r.requests.tail, ∀ c ∈ q, c ∈ U) ∧
    r.requests.length ≤ U.length + 1 ∧
    (U.length < fuel → r.outcome ≠ .outOfFuel) := by
  obtain ⟨h1, h2, h3, h4⟩ := walk_bound (bulkFetcher x size) (fun _ c => c ∈ U)
    (bulkFetcher_advances x size U hU) U (fun _ _ h => h) roots false fuel hpf
  exact ⟨h1, fun q hq c hc => (h2 q hq c hc).elim fun _ h => h.2, h3, h4⟩

/-- the hypothesis on the roots is satisfiable -/
example : PrefixFree [[1,3]] := by unfold PrefixFree; simp

/-- termination rests on these shapes of the code (generated from the AST): the walk loop ends on
    `NoSuchOID` / `FaultySNMPImplementation`, the completion loop of the bulk fetcher ends when a
    completion request returns nothing -/
theorem C03_loop_shapes : Snmp.Gen.walkLoopShape = true ∧ Snmp.Gen.bulkFetcherShape = true := by decide

end Snmp.Props.C03
