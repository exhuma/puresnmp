/-
  C14 — concurrent operations on a shared client do not disturb one another.
  Model: `Snmp.Conc` (coroutine trees, one shared discovery cache, schedules = order in which
  pending sender calls are answered).  Partial by nature: asyncio's run-to-completion between
  awaits is the modelling assumption; the correspondence suite enumerates real schedules.
-/
import Snmp.Model.Conc
namespace Snmp.Props.C14
open Snmp.Conc

variable {Req Resp Disco Res : Type}

def reqsOf : List (Wire Req) → List Req
  | [] => []
  | .probe :: w => reqsOf w
  | .req q :: w => q :: reqsOf w

theorem reqsOf_append (a b : List (Wire Req)) : reqsOf (a ++ b) = reqsOf a ++ reqsOf b := by
  induction a with
  | nil => rfl
  | cons x a ih => cases x <;> simp [reqsOf, ih]

/-- what a suspended process will still return / still request when run to the end -/
def denoteSt (answer : Req → Resp) (d₀ : Disco) : PState Req Resp Disco Res → Res
  | .waiting q k => denote answer d₀ (k (answer q))
  | .probing k => denote answer d₀ (k d₀)
  | .finished r => r

def restReqs (answer : Req → Resp) (d₀ : Disco) : PState Req Resp Disco Res → List Req
  | .waiting q k => soloReqs answer d₀ (k (answer q))
  | .probing k => soloReqs answer d₀ (k d₀)
  | .finished _ => []

/-- running a task to its next suspension neither changes what it will return nor what it
    will request, whether the discovery cache is empty or holds the agent's answer -/
theorem settle_spec (answer : Req → Resp) (d₀ : Disco) (shared : Option Disco)
    (hs : shared = none ∨ shared = some d₀) (p : Proc Req Resp Disco Res) :
    denoteSt answer d₀ (settle shared p).1 = denote answer d₀ p ∧
    reqsOf (settle shared p).2 ++ restReqs answer d₀ (settle shared p).1 = soloReqs answer d₀ p := by
  induction p with
  | done r => simp [settle, denoteSt, denote, reqsOf, restReqs, soloReqs]
  | exchange q k _ => simp [settle, denoteSt, denote, reqsOf, restReqs, soloReqs]
  | needDisco k ih =>
    rcases hs with rfl | rfl
    · simp [settle, denoteSt, denote, reqsOf, restReqs, soloReqs]
    · simpa [settle, denote, soloReqs] using ih d₀

/-- the invariant of every reachable state: the cache is empty or right, and every process still denotes and still
    requests what its solo run does -/
def Inv (answer : Req → Resp) (d₀ : Disco) (ps : List (Proc Req Resp Disco Res)) (s : State Req Resp Disco Res) : Prop :=
  (s.shared = none ∨ s.shared = some d₀) ∧
  ∀ (i : Nat) (p : Proc Req Resp Disco Res), ps[i]? = some p → ∃ st h, s.procs[i]? = some (st, h) ∧
    denoteSt answer d₀ st = denote answer d₀ p ∧
    reqsOf h ++ restReqs answer d₀ st = soloReqs answer d₀ p

theorem inv_start (answer : Req → Resp) (d₀ : Disco) (ps : List (Proc Req Resp Disco Res)) :
    Inv answer d₀ ps (start ps) := by
  refine ⟨Or.inl rfl, ?_⟩
  intro i p hp
  have h := settle_spec answer d₀ (none : Option Disco) (Or.inl rfl) p
  refine ⟨(settle none p).1, (settle none p).2, ?_, h.1, h.2⟩
  simp [start, List.getElem?_map, hp]

/-- resuming process `j` — suspended on `st₀`, about to continue as `p'` — with a cache that is
    empty or right keeps the invariant: `settle` changes neither its result nor its requests -/
theorem inv_resume (answer : Req → Resp) (d₀ : Disco) (ps : List (Proc Req Resp Disco Res))
    (s : State Req Resp Disco Res) (j : Nat) (st₀ : PState Req Resp Disco Res) (hist : List (Wire Req))
    (hj : s.procs[j]? = some (st₀, hist)) (shared' : Option Disco) (hsh' : shared' = none ∨ shared' = some d₀)
    (p' : Proc Req Resp Disco Res) (hden' : denote answer d₀ p' = denoteSt answer d₀ st₀)
    (hreq' : soloReqs answer d₀ p' = restReqs answer d₀ st₀) (log' : List (Nat × Wire Req))
    (h : Inv answer d₀ ps s) :
    Inv answer d₀ ps ⟨shared', s.procs.set j ((settle shared' p').1, hist ++ (settle shared' p').2), log'⟩ := by
  obtain ⟨_, hall⟩ := h
  have hspec := settle_spec answer d₀ shared' hsh' p'
  refine ⟨hsh', fun i p hp => ?_⟩
  obtain ⟨st, hh, hget, hden, hreq⟩ := hall i p hp
  by_cases hij : j = i
  · subst hij
    rw [hj] at hget
    cases hget
    have hlt : j < s.procs.length := (List.getElem?_eq_some_iff.mp hj).1
    refine ⟨_, _, List.getElem?_set_self hlt, ?_, ?_⟩
    · rw [hspec.1, hden', hden]
    · rw [reqsOf_append, List.append_assoc, hspec.2, hreq', hreq]
  · exact ⟨st, hh, (List.getElem?_set_ne hij).trans hget, hden, hreq⟩

theorem inv_deliver (answer : Req → Resp) (forgets : Req → Resp → Bool) (d₀ : Disco) (ps : List (Proc Req Resp Disco Res))
    (s : State Req Resp Disco Res) (j : Nat) (h : Inv answer d₀ ps s) :
    Inv answer d₀ ps (deliver answer forgets d₀ s j) := by
  unfold deliver
  split
  · rename_i q k hist hj
    exact inv_resume answer d₀ ps s j _ hist hj _ (by split; exact .inl rfl; exact h.1) (k (answer q)) rfl rfl _ h
  · rename_i k hist hj
    exact inv_resume answer d₀ ps s j _ hist hj _ (.inr rfl) (k d₀) rfl rfl _ h
  · exact h

theorem inv_run (answer : Req → Resp) (forgets : Req → Resp → Bool) (d₀ : Disco) (ps : List (Proc Req Resp Disco Res))
    (s : State Req Resp Disco Res) (sched : List Nat) (h : Inv answer d₀ ps s) :
    Inv answer d₀ ps (runSched answer forgets d₀ s sched) :=
  List.foldlRecOn sched _ h fun s hs j _ => inv_deliver answer forgets d₀ ps s j hs

/-- Under every schedule, every operation that finishes returns exactly what it returns when
    run alone, and the requests it has put on the wire are exactly the requests of its solo run
    (so results, users, keys and request contents are never mixed between operations) — whichever
    answers make the client forget its discovery data (`forgets`, e.g. error-status replies). -/
theorem C14_schedule_independent (answer : Req → Resp) (forgets : Req → Resp → Bool) (d₀ : Disco)
    (ps : List (Proc Req Resp Disco Res)) (sched : List Nat) (i : Nat) (p : Proc Req Resp Disco Res)
    (r : Res) (h : List (Wire Req)) (hp : ps[i]? = some p)
    (hfin : (runSched answer forgets d₀ (start ps) sched).procs[i]? = some (.finished r, h)) :
    r = denote answer d₀ p ∧ reqsOf h = soloReqs answer d₀ p := by
  have hinv := inv_run answer forgets d₀ ps (start ps) sched (inv_start answer d₀ ps)
  rcases hinv.2 i p hp with ⟨st, hh, hget, hden, hreq⟩
  rw [hfin] at hget
  cases hget
  exact ⟨by simpa [denoteSt] using hden, by simpa [restReqs] using hreq⟩

/-- At every moment of every schedule, what an operation has requested so far is a prefix of its
    solo run: the only additional traffic under concurrency is discovery probes. -/
theorem C14_discovery_only_repeats (answer : Req → Resp) (forgets : Req → Resp → Bool) (d₀ : Disco)
    (ps : List (Proc Req Resp Disco Res)) (sched : List Nat) (i : Nat) (p : Proc Req Resp Disco Res)
    (hp : ps[i]? = some p) :
    ∃ st h, (runSched answer forgets d₀ (start ps) sched).procs[i]? = some (st, h) ∧
      reqsOf h <+: soloReqs answer d₀ p := by
  have hinv := inv_run answer forgets d₀ ps (start ps) sched (inv_start answer d₀ ps)
  rcases hinv.2 i p hp with ⟨st, hh, hget, _, hreq⟩
  exact ⟨st, hh, hget, ⟨_, hreq⟩⟩

/-- Progress: a suspended operation can always be resumed, and a delivery to it never touches
    any other operation's state. -/
theorem C14_progress (answer : Req → Resp) (forgets : Req → Resp → Bool) (d₀ : Disco) (s : State Req Resp Disco Res) (i j : Nat)
    (hij : i ≠ j) : (deliver answer forgets d₀ s i).procs[j]? = s.procs[j]? := by
  unfold deliver
  split
  · exact List.getElem?_set_ne hij
  · exact List.getElem?_set_ne hij
  · rfl

/-- Each API operation is such a coroutine tree: a GET is one discovery read and one exchange. -/
def getProc (mkReq : Disco → Req) (result : Resp → Res) : Proc Req Resp Disco Res :=
  .needDisco fun d => .exchange (mkReq d) fun resp => .done (result resp)

/- non-vacuity: two operations on a fresh v3 client, both probe, results not mixed -/
example :
    let ps : List (Proc Nat Nat Nat Nat) := [getProc (· + 1) (· * 2), getProc (· + 5) (· * 3)]
    let s := runSched (fun q => q + 100) (fun _ _ => false) 7 (start ps) [1, 0, 0, 1]
    s.procs.map (fun x => match x.1 with | .finished r => some r | _ => none) = [some 216, some 336] ∧
    s.log.map (fun e => (e.1, match e.2 with | .probe => 0 | .req q => q)) = [(0, 0), (1, 0), (1, 12), (0, 8)] := by
  decide

end Snmp.Props.C14
