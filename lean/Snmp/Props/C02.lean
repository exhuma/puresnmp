/-
  C02 — bulk walk returns exactly what the GETNEXT walk returns.  Property theorems.
  Proved: the GETBULK size bound over the generated expression; on the Python-faithful model, for
  any agent: bulk walks yield nothing outside the roots and nothing twice, independent of the
  listing order; with one repetition per request the bulk walk IS the GETNEXT walk; against a
  conformant agent that answers with any number of repetitions, shortened anywhere (also inside
  the first repetition: the fetcher's completion requests), the bulk walk is complete
  (`C02_bulk_complete`) and returns the instance set of the GETNEXT walk (`C02_bulk_eq_getnext`).
-/
import Snmp.Gen.Facts
import Snmp.Model.Walk
import Snmp.Lemmas.WalkSound
import Snmp.Lemmas.WalkComplete
import Snmp.Model.Fault
import Snmp.Props.C01
namespace Snmp.Props.C02
open Snmp Snmp.Walk

/-- The GETBULK size bound generated from `Client.bulkget` is RFC 3416's `N + M·R`. -/
theorem C02_bulk_bound (nonRep nOids maxRep : Nat) :
    Gen.bulkBound nonRep nOids maxRep =
      (min nonRep nOids : Nat) + maxRep * (nOids - min nonRep nOids : Nat) := by
  unfold Gen.bulkBound
  have h1 : ((min nonRep nOids : Nat) : Int) = min (nonRep : Int) (nOids : Int) := by omega
  have h2 : ((nOids - min nonRep nOids : Nat) : Int)
      = max ((nOids : Int) - min (nonRep : Int) (nOids : Int)) 0 := by omega
  simp only [h1, h2]

/-- For ANY agent, repetition count and truncation: every binding a bulk walk yields lies inside
    a requested root and no instance is yielded twice (adjacent subtrees overrunning into each
    other included). -/
theorem C02_bulk_sound_nodup (x : Exchange) (size : Nat) (roots : List Oid) (fuel : Nat) :
    (yieldOids (walkBulk x size roots fuel).events).Nodup ∧
    ∀ y ∈ yieldOids (walkBulk x size roots fuel).events, ∃ r ∈ roots, r <+: y :=
  multiwalk_sound (bulkFetcher x size) roots false fuel

/-- the bulk walk does not depend on the order in which the roots were listed -/
theorem C02_order_independent (x : Exchange) (size : Nat) (roots roots' : List Oid) (h : roots'.Perm roots) (fuel : Nat) :
    walkBulk x size roots' fuel = walkBulk x size roots fuel :=
  multiwalk_perm (bulkFetcher x size) roots roots' h false fuel

theorem getbulk_one_row (a : AgentFn) (oids : List Oid) :
    Agent.getbulkResp a {} 0 1 oids = Agent.getnextResp a oids := by
  unfold Agent.getbulkResp Agent.getnextResp
  cases oids with
  | nil => rfl
  | cons o rest =>
    -- the one repetition is the GETNEXT answer whether or not it ends the response; nothing is cut
    simp only [Nat.zero_min, List.take_zero, List.map_nil, List.drop_zero, List.nil_append, List.isEmpty_cons,
      Bool.false_eq_true, ↓reduceIte, Agent.bulkRows, ite_self, List.flatten_cons, List.flatten_nil, List.append_nil]
    rw [if_neg (by simp), if_neg (by simp)]

theorem bulkVarbinds_one (a : AgentFn) (db : List VarBind) (oids : List Oid) :
    bulkVarbinds (exchangeOf a db {}) [] oids 1 = .ok (Agent.getnextResp a oids) :=
  bulkVarbinds_ok_iff.mpr ⟨by simp only [exchangeOf, getbulk_one_row], by simp [Agent.getnextResp]⟩

/-- **Bulk size 1 ≡ GETNEXT**, on the Python-faithful model and for ANY agent function: the fetcher
    of `bulkwalk(bulk_size=1)` accepts, refuses and returns exactly what `multigetnext` does -/
theorem bulkFetcher_one (a : AgentFn) (db : List VarBind) (oids : List Oid) :
    bulkFetcher (exchangeOf a db {}) 1 oids = multigetnext (exchangeOf a db {}) oids := by
  have hlen : (Agent.getnextResp a oids).length = oids.length := by simp [Agent.getnextResp]
  have hout : ((Agent.getnextResp a oids).takeWhile notEom).length ≤ oids.length := by
    rw [← hlen]; exact (List.takeWhile_sublist _).length_le
  unfold bulkFetcher
  rw [bulkVarbinds_one]
  simp only [bind, Except.bind]
  rw [completeRow_stop _ oids oids.length _ fun h => Nat.lt_irrefl _ (hlen ▸ h.2.1)]
  simp only []
  rw [checkColumns_single oids _ hout]
  unfold multigetnext
  simp [exchangeOf, bind, Except.bind, hlen, pure, Except.pure]

/-- … hence the whole bulk walk with one repetition per request is the GETNEXT walk: same
    requests (as OID lists), same yields in the same order, same ending. -/
theorem C02_size1_eq_getnext (a : AgentFn) (db : List VarBind) (roots : List Oid) (fuel : Nat) :
    walkBulk (exchangeOf a db {}) 1 roots fuel = walkGetnext (exchangeOf a db {}) roots false fuel := by
  unfold walkBulk walkGetnext
  rw [funext (bulkFetcher_one a db)]

/-- **Completeness of the bulk walk.**  `x` is any exchange that answers a GETBULK like a conformant
    agent holding `db`: between one and max-repetitions repetitions, shortened ANYWHERE as long as
    one binding is left — also inside the first repetition, RFC 3416 4.2.3 (`ConformantBulk` —
    "however many repetitions the agent chooses to put into each response"; rows made of
    endOfMibView included).  For every repetition count ≥ 1, pairwise
    disjoint roots in any order and a loop budget ≥ `|db|`, the bulk walk ends normally, has
    yielded every database entry strictly below a root and yields database entries only. -/
theorem C02_bulk_complete (x : Exchange) (db : List VarBind) (roots : List Oid) (size fuel : Nat)
    (hsize : 1 ≤ size) (hs : WalkAbs.Sorted (db.map (·.1))) (hv : ∀ vb ∈ db, vb.2.isEom = false)
    (hpf : PrefixFree roots) (hne : roots ≠ []) (hx : ConformantBulk x db) (hfuel : db.length ≤ fuel) :
    let r := walkBulk x size roots fuel
    r.outcome = .done ∧
    (∀ vb ∈ db, (∃ root ∈ roots, root <+: vb.1 ∧ vb.1 ≠ root) → vb ∈ r.yields) ∧
    (∀ vb ∈ r.yields, vb ∈ db) :=
  walk_complete _ db roots false fuel hs hv hpf hne (bulkFetcher_conformant x db hv hx size hsize) hfuel

/-- the model's conformant agent under EVERY truncation policy is such an exchange: number of
    repetitions capped, trailing bindings cut — also into the first repetition —, with or without the
    early stop after an all-endOfMibView repetition -/
theorem C02_policies_conformant (db : List VarBind) (pol : BulkPolicy) :
    ConformantBulk (exchangeOf (Agent.conformant db) db pol) db :=
  exchange_conformantBulk db pol

/-- … and stays one behind any message-size limit: cutting every GETBULK answer — the answers to
    the fetcher's completion requests too — to its first `n` bindings (at least one) -/
theorem C02_size_limit_conformant (x : Exchange) (db : List VarBind) (n : Nat) (hx : ConformantBulk x db) :
    ConformantBulk (Fault.limit x n) db := by
  constructor
  intro m cs hcs hm
  obtain ⟨k, L, hk1, hkm, hL, hresp⟩ := hx.resp m cs hcs hm
  refine ⟨k, min (max 1 n) L, hk1, hkm, Nat.le_min.mpr ⟨Nat.le_max_left 1 n, hL⟩, ?_⟩
  simp only [Fault.limit, hresp, List.take_take]

/-- **Bulk walk ≡ GETNEXT walk as sets of instances**, each instance once: same agent, same roots,
    any repetition count, any such truncation policy, strict or lenient GETNEXT walk.  Instances
    whose OID equals a root are left open, as in the property. -/
theorem C02_bulk_eq_getnext (db : List VarBind) (pol : BulkPolicy) (roots : List Oid) (size fuel : Nat)
    (lenient : Bool) (hsize : 1 ≤ size) (hs : WalkAbs.Sorted (db.map (·.1)))
    (hv : ∀ vb ∈ db, vb.2.isEom = false) (hpf : PrefixFree roots) (hne : roots ≠ [])
    (hfuel : db.length ≤ fuel) :
    let x := exchangeOf (Agent.conformant db) db pol
    let b := walkBulk x size roots fuel
    let g := walkGetnext x roots lenient fuel
    b.outcome = .done ∧ g.outcome = .done ∧
    (∀ vb : VarBind, vb.1 ∉ roots → (vb ∈ b.yields ↔ vb ∈ g.yields)) ∧
    (yieldOids b.events).Nodup ∧ (yieldOids g.events).Nodup := by
  intro x b g
  have hb := C02_bulk_complete x db roots size fuel hsize hs hv hpf hne (exchange_conformantBulk db pol) hfuel
  have hg := Snmp.Props.C01.C01_complete db pol roots lenient fuel hs hv hpf hfuel
  have hbs := C02_bulk_sound_nodup x size roots fuel
  have hgs := Snmp.Props.C01.C01_sound_nodup (multigetnext x) roots lenient fuel
  -- what one walk yields, a root itself apart, is a database entry strictly below a root, so the
  -- other walk yields it too
  have key : ∀ r r' : Result, (∀ vb ∈ r.yields, vb ∈ db) →
      (∀ y ∈ yieldOids r.events, ∃ root ∈ roots, root <+: y) →
      (∀ vb ∈ db, (∃ root ∈ roots, root <+: vb.1 ∧ vb.1 ≠ root) → vb ∈ r'.yields) →
      ∀ vb : VarBind, vb.1 ∉ roots → vb ∈ r.yields → vb ∈ r'.yields := by
    intro r r' hdb hsound hcomp vb hnr hvb
    have hy : vb.1 ∈ yieldOids r.events := by
      rw [yieldOids_eq, ← yields_eq]; exact List.mem_map_of_mem (f := fun v : VarBind => v.1) hvb
    obtain ⟨root, hr, hpre⟩ := hsound vb.1 hy
    exact hcomp vb (hdb vb hvb) ⟨root, hr, hpre, fun h => hnr (h ▸ hr)⟩
  exact ⟨hb.1, hg.1, fun vb hnr => ⟨key b g hb.2.2 hbs.2 hg.2.1 vb hnr, key g b hg.2.2 hgs.2 hb.2.1 vb hnr⟩,
    hbs.1, hgs.1⟩

/- the hypotheses are satisfiable: three adjacent subtrees of different sizes, one empty -/
example : WalkAbs.Sorted ([([1,3,1,1], Val.int 1), ([1,3,1,2], Val.int 2), ([1,3,3,1], Val.null)].map (·.1))
    ∧ PrefixFree [[1,3,3],[1,3,1],[1,3,2]] ∧ ({ rows := some 1, cut := 2, deep := true } : BulkPolicy).deep = true :=
  ⟨by unfold WalkAbs.Sorted; decide, by unfold PrefixFree; decide, rfl⟩

/-- the bulk fetcher has the shape the model renders (generated from the AST): `bulk_size` repetitions
    asked for first, a response shorter than one repetition completed by requests for the missing
    columns with max-repetitions 1 until one returns nothing, per-column successor check -/
theorem C02_fetcher_shape : Snmp.Gen.bulkFetcherShape = true := by decide

end Snmp.Props.C02
