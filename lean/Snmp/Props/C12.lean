/-
  C12 — discovery happens first and timeliness is kept for the client's whole life.
  Model: `Snmp.Disco` (0.1 s ticks; agent clock, reboots; the client's cache of the discovery
  result; `_send` repeating a request once after a notInTimeWindow report).
-/
import Snmp.Model.Disco
import Snmp.Gen.Facts
namespace Snmp.Props.C12
open Snmp.Disco

def isReq : Wire → Bool
  | .req .. => true
  | .probe => false

theorem run_append (auth : Bool) (ctx : Bytes) (s : St) (a b : List Ev) :
    run auth ctx s (a ++ b) = ((run auth ctx (run auth ctx s a).1 b).1, (run auth ctx s a).2 ++ (run auth ctx (run auth ctx s a).1 b).2) := by
  induction a generalizing s with
  | nil => simp [run]
  | cons e a ih => simp [run, ih, List.append_assoc]

/-- a time at most one second behind the agent's clock is well inside the window -/
theorem inWindow_of (a : Agent) (now t : Nat) (h1 : t ≤ a.time now) (h2 : a.time now ≤ t + 1) :
    inWindow a now a.boots t = true := by
  unfold inWindow
  simp only [beq_self_eq_true, Bool.true_and, Bool.and_eq_true, decide_eq_true_eq]
  omega

theorem sendWith_fst (a : Agent) (now : Nat) (ctx : Bytes) (c : Cached) :
    (sendWith a now ctx c).1 = .req c.engineId (if ctx == [] then c.engineId else ctx) c.boots
      (c.time + (now - c.stamp) / 10) (sendWith a now ctx c).2 := rfl

theorem sendWith_discover (s : St) (ctx : Bytes) :
    sendWith s.agent s.now ctx (discover s) =
      (.req s.agent.engineId (if ctx == [] then s.agent.engineId else ctx) s.agent.boots (s.agent.time s.now) true, true) := by
  have : inWindow s.agent s.now s.agent.boots (s.agent.time s.now) = true :=
    inWindow_of _ _ _ (Nat.le_refl _) (Nat.le_succ _)
  simp [sendWith, discover, this]

theorem request_eq (auth : Bool) (ctx : Bytes) (s : St) :
    request auth ctx s =
      if auth && !(sendWith s.agent s.now ctx (s.disco.getD (discover s))).2 then
        ({ s with disco := some (discover s) },
          (if s.disco.isSome then [] else [.probe]) ++ [(sendWith s.agent s.now ctx (s.disco.getD (discover s))).1, .probe, (sendWith s.agent s.now ctx (discover s)).1])
      else
        ({ s with disco := some (s.disco.getD (discover s)) },
          (if s.disco.isSome then [] else [.probe]) ++ [(sendWith s.agent s.now ctx (s.disco.getD (discover s))).1]) := by
  -- after a re-discovery the second attempt is inside the window (`sendWith_discover`), so the
  -- model's `if iw' then some c' else none` is `some (discover s)`
  unfold request
  cases hd : s.disco with
  | none => simp [sendWith_discover]
  | some c0 => simp only [Option.getD_some, sendWith_discover, Option.isSome_some, if_true]

/-- Before its first SNMPv3 request a client performs engine discovery: whatever the history,
    the first thing a fresh client puts on the wire is a discovery probe. -/
theorem C12_discovery_first (auth : Bool) (ctx : Bytes) (s : St) (evs : List Ev) (h : s.disco = none) :
    (run auth ctx s evs).2 = [] ∨ (run auth ctx s evs).2.head? = some .probe := by
  induction evs generalizing s with
  | nil => left; rfl
  | cons e evs ih =>
    cases e with
    | request =>
      right
      simp only [run, step, request_eq, h, Option.getD_none]
      cases auth && !(sendWith s.agent s.now ctx (discover s)).2 <;> rfl
    | advance dt => simpa [run, step] using ih { s with now := s.now + dt } h
    | reboot =>
      simpa [run, step] using ih { s with agent := { s.agent with boots := s.agent.boots + 1, bootAt := s.now } } h
    | requestBadReply => right; simp [run, step, requestBad, h]

/-- what a step from `s` may put on the wire when the discovery data it uses has `Q` -/
def OnWire (Q : Cached → Prop) (s : St) (ctx : Bytes) (w : Wire) : Prop :=
  w = .probe ∨ ∃ c, Q c ∧ w = (sendWith s.agent s.now ctx c).1

/-- What one step keeps and sends, for any property `Q` of discovery data that fresh data has:
    the cache keeps it, and every request on the wire was built by `sendWith` from data that has it. -/
theorem step_cached (auth : Bool) (ctx : Bytes) (s : St) (e : Ev) (Q : Cached → Prop)
    (hnew : Q (discover s)) (hc : ∀ c, s.disco = some c → Q c) :
    (e ≠ .reboot → (step auth ctx s e).1.agent = s.agent) ∧
    (step auth ctx s e).1.agent.engineId = s.agent.engineId ∧ s.now ≤ (step auth ctx s e).1.now ∧
    (∀ c, (step auth ctx s e).1.disco = some c → Q c) ∧
    ∀ w ∈ (step auth ctx s e).2, OnWire Q s ctx w := by
  have hg : Q (s.disco.getD (discover s)) := by
    cases hd : s.disco with
    | none => exact hnew
    | some c => exact hc c hd
  have probe : OnWire Q s ctx .probe := .inl rfl
  have sent (c) (h : Q c) : OnWire Q s ctx (sendWith s.agent s.now ctx c).1 := .inr ⟨c, h, rfl⟩
  have hpre : ∀ w ∈ (if s.disco.isSome then [] else [Wire.probe]), OnWire Q s ctx w := by
    split
    · exact fun _ h => nomatch h
    · exact List.forall_mem_singleton.mpr probe
  have hle := Nat.le_refl s.now
  cases e with
  | advance dt => exact ⟨fun _ => rfl, rfl, Nat.le_add_right .., hc, fun _ h => nomatch h⟩
  | reboot => exact ⟨fun h => absurd rfl h, rfl, hle, hc, fun _ h => nomatch h⟩
  | request =>
    rw [step, request_eq]
    cases auth && !(sendWith s.agent s.now ctx (s.disco.getD (discover s))).2
    · exact ⟨fun _ => rfl, rfl, hle, fun c h => by cases h; exact hg,
        List.forall_mem_append.mpr ⟨hpre, List.forall_mem_singleton.mpr (sent _ hg)⟩⟩
    · exact ⟨fun _ => rfl, rfl, hle, fun c h => by cases h; exact hnew,
        List.forall_mem_append.mpr ⟨hpre, List.forall_mem_cons.mpr ⟨sent _ hg, List.forall_mem_cons.mpr ⟨probe,
          List.forall_mem_singleton.mpr (sent _ hnew)⟩⟩⟩⟩
  | requestBadReply =>
    rw [step, requestBad]
    cases hd : s.disco with
    | none => exact ⟨fun _ => rfl, rfl, hle, fun c h => hc c (hd ▸ h), List.forall_mem_singleton.mpr probe⟩
    | some c =>
      simp only
      cases auth && !(sendWith s.agent s.now ctx c).2
      · exact ⟨fun _ => rfl, rfl, hle, hc, List.forall_mem_singleton.mpr (sent c (hc c hd))⟩
      · exact ⟨fun _ => rfl, rfl, hle, fun c h => (nomatch h),
          List.forall_mem_cons.mpr ⟨sent c (hc c hd), List.forall_mem_singleton.mpr probe⟩⟩

theorem run_wires (auth : Bool) (ctx : Bytes) (I : St → Prop) (P : Wire → Prop) :
    ∀ (evs : List Ev) (s : St), I s →
      (∀ s, I s → ∀ e ∈ evs, I (step auth ctx s e).1 ∧ ∀ w ∈ (step auth ctx s e).2, P w) →
      ∀ w ∈ (run auth ctx s evs).2, P w
  | [], _, _, _, w, hw => by simp [run] at hw
  | e :: evs, s, hs, h, w, hw => by
    obtain ⟨hI, hP⟩ := h s hs e (List.mem_cons_self ..)
    simp only [run, List.mem_append] at hw
    rcases hw with hw | hw
    · exact hP w hw
    · exact run_wires auth ctx I P evs _ hI (fun s hs e he => h s hs e (List.mem_cons_of_mem _ he)) w hw

/-- the engine-id part of the state invariant -/
def IdInv (s : St) : Prop := ∀ c, s.disco = some c → c.engineId = s.agent.engineId

theorem idInv_step (auth : Bool) (ctx : Bytes) (s : St) (e : Ev) (h : IdInv s) :
    IdInv (step auth ctx s e).1 ∧ (step auth ctx s e).1.agent.engineId = s.agent.engineId ∧
    ∀ w ∈ (step auth ctx s e).2, ∀ eid cid b t iw, w = .req eid cid b t iw →
      eid = s.agent.engineId ∧ cid = (if ctx == [] then s.agent.engineId else ctx) := by
  obtain ⟨_, ha, _, hc, hw⟩ := step_cached auth ctx s e (fun c => c.engineId = s.agent.engineId) rfl h
  refine ⟨fun c => ha ▸ hc c, ha, ?_⟩
  rintro w hw' eid cid b t iw rfl
  obtain h | ⟨c, hq, hweq⟩ := hw _ hw'
  · cases h
  · simp only [sendWith, hq, Wire.req.injEq] at hweq
    exact ⟨hweq.1, hweq.2.1⟩

/-- The discovered engine id is used as security engine id of every request, and as context
    engine id unless the client was configured with one. -/
theorem C12_engine_ids (auth : Bool) (ctx : Bytes) (s : St) (evs : List Ev) (h : IdInv s) :
    ∀ w ∈ (run auth ctx s evs).2, ∀ eid cid b t iw, w = .req eid cid b t iw →
      eid = s.agent.engineId ∧ cid = (if ctx == [] then s.agent.engineId else ctx) := by
  refine run_wires auth ctx (fun s' => IdInv s' ∧ s'.agent.engineId = s.agent.engineId) _ evs s ⟨h, rfl⟩ ?_
  rintro s' ⟨hi, ha⟩ e _
  obtain ⟨h1, h2, h3⟩ := idInv_step auth ctx s' e hi
  exact ⟨⟨h1, h2.trans ha⟩, ha ▸ h3⟩

/-- an operation succeeded: the last thing it sent is a request inside the agent's window -/
def opOk (ws : List Wire) : Prop := ∃ e c b t, ws.getLast? = some (.req e c b t true)

theorem opOk_concat (pre : List Wire) (a : Agent) (now : Nat) (ctx : Bytes) (c : Cached)
    (h : (sendWith a now ctx c).2 = true) : opOk (pre ++ [(sendWith a now ctx c).1]) :=
  ⟨_, _, _, _, by rw [List.getLast?_concat, sendWith_fst, h]⟩

/-- **Timeliness for the client's whole life, reboots included.**  After ANY history — requests,
    clock advances from tenths of a second to days, agent reboots, refused discovery replies — a
    request by an authenticated user ends with a request that lies inside the agent's 150-second
    window (boots equal, time within the window): a request that succeeds right after discovery
    succeeds when issued any time later. -/
theorem C12_in_window (ctx : Bytes) (s : St) : opOk (request true ctx s).2 := by
  rw [request_eq]
  cases hb : (sendWith s.agent s.now ctx (s.disco.getD (discover s))).2
  · have := opOk_concat ((if s.disco.isSome then [] else [.probe]) ++
      [(sendWith s.agent s.now ctx (s.disco.getD (discover s))).1, .probe]) s.agent s.now ctx (discover s)
      (by rw [sendWith_discover])
    simpa using this
  · exact opOk_concat _ _ _ _ _ hb

/-- … in particular after every history starting from a fresh client -/
theorem C12_in_window_after_any_history (ctx eid : Bytes) (boots start : Nat) (evs : List Ev) :
    opOk (request true ctx (run true ctx (init eid boots start) evs).1).2 :=
  C12_in_window ctx _

/-- a discovery exchange that takes no time is the ordinary request -/
theorem C12_slow_zero (auth : Bool) (ctx : Bytes) (s : St) : requestSlow 0 auth ctx s = request auth ctx s := by
  have ht : tick 0 s = s := by cases s; simp [tick]
  unfold requestSlow
  cases hd : s.disco with
  | none => simp only [ht]
  | some c => simp only [ht, request, hd, List.nil_append]

/-- **Time passing during the discovery exchange.**  However long the probe takes to reach the
    engine (`lat` ticks: a slow path, retransmissions) and whatever the state before, a request by
    an authenticated user still ends with a request inside the engine's window: the time stamp of
    the discovery data is read when the Report has arrived, so the cached engine time is the
    engine's time at that very instant (seeded change C05-42 moved the stamp in front of the
    exchange). -/
theorem C12_slow_discovery_in_window (lat : Nat) (ctx : Bytes) (s : St) : opOk (requestSlow lat true ctx s).2 := by
  unfold requestSlow
  cases hd : s.disco with
  | none => exact C12_in_window ctx (tick lat s)
  | some c =>
    simp only [Bool.true_and]
    cases hiw : (sendWith s.agent s.now ctx c).2
    · -- outside the window: re-discovery (slow), then a request with fresh data
      exact opOk_concat [_, .probe] _ _ _ _ (by rw [sendWith_discover])
    · exact opOk_concat [] _ _ _ _ hiw


/-- **The engine time sent, generated from `V3MPM.encode`.**  The expression the code puts into a
    request (`self.disco.authoritative_engine_time + int(time.monotonic() - self.disco_timestamp)`,
    translated by `tools/extract.py` over instants in tenths of a second) is the one the model's
    `sendWith` uses: the cached engine time plus the whole seconds elapsed since the stamp. -/
theorem C12_engine_time_rule (a : Agent) (now : Nat) (ctx : Bytes) (c : Cached) (h : c.stamp ≤ now) :
    ∃ e x b t iw, (sendWith a now ctx c).1 = .req e x b t iw ∧ (t : Int) = Snmp.Gen.engineTimeSent c.time now c.stamp := by
  refine ⟨_, _, _, _, _, rfl, ?_⟩
  -- the cast to `Int` goes through `+` and `/`, and through `-` because the stamp is not in the future
  rw [Snmp.Gen.engineTimeSent, Int.natCast_add, Int.natCast_ediv, Int.natCast_sub h]
  rfl

/-- … and the time stamp of the discovery data is read after the discovery exchange has returned
    (statement order in `V3MPM.encode`, generated): the assumption `requestSlow` is built on. -/
theorem C12_stamp_after_discovery : Snmp.Gen.stampAfterDiscovery = true := by decide

/-- one operation sends at most one request that is outside the window, and if it does, a new
    discovery and a request inside the window follow at once (no endless re-synchronisation) -/
theorem C12_retry_once (auth : Bool) (ctx : Bytes) (s : St) :
    ((request auth ctx s).2.filter (fun w => match w with | .req _ _ _ _ false => true | _ => false)).length ≤ 1 ∨
    auth = false := by
  left
  have one : ∀ w : Wire, ([w].filter (fun w => match w with | .req _ _ _ _ false => true | _ => false)).length ≤ 1 :=
    fun w => List.length_filter_le _ [w]
  -- probes and the request after a re-discovery do not count; that leaves the first attempt
  rw [request_eq, sendWith_discover]
  cases auth && !(sendWith s.agent s.now ctx (s.disco.getD (discover s))).2 <;> cases s.disco.isSome <;> exact one _

/-- timeliness invariant: what the client would send now is exactly the agent's boots / time -/
def TimeInv (s : St) : Prop :=
  s.agent.bootAt ≤ s.now ∧
  ∀ c, s.disco = some c → c.boots = s.agent.boots ∧ s.agent.bootAt ≤ c.stamp ∧ c.stamp ≤ s.now ∧
    c.time = (c.stamp - s.agent.bootAt) / 10

def noReboot (evs : List Ev) : Prop := ∀ e ∈ evs, e ≠ .reboot

/-- discovery data from which `sendWith` reproduces the agent's boots and, to the second, its time:
    what `TimeInv` asks of the cache -/
def Fresh (a : Agent) (now : Nat) (c : Cached) : Prop :=
  c.boots = a.boots ∧ a.bootAt ≤ c.stamp ∧ c.stamp ≤ now ∧ c.time = (c.stamp - a.bootAt) / 10

theorem Fresh.discover (s : St) (h : s.agent.bootAt ≤ s.now) : Fresh s.agent s.now (discover s) :=
  ⟨rfl, h, Nat.le_refl _, rfl⟩

theorem Fresh.later {a : Agent} {now now' : Nat} {c : Cached} (h : Fresh a now c) (hle : now ≤ now') : Fresh a now' c :=
  ⟨h.1, h.2.1, Nat.le_trans h.2.2.1 hle, h.2.2.2⟩

/-- whole seconds of two stretches against the whole seconds of their sum -/
theorem div10_split (x y : Nat) : x / 10 + y / 10 ≤ (x + y) / 10 ∧ (x + y) / 10 ≤ x / 10 + y / 10 + 1 := by
  omega

theorem sendWith_accurate (a : Agent) (now : Nat) (ctx : Bytes) (c : Cached) (h : Fresh a now c) :
    ∃ t, sendWith a now ctx c = (.req c.engineId (if ctx == [] then c.engineId else ctx) a.boots t true, true) ∧
      t ≤ a.time now ∧ a.time now ≤ t + 1 := by
  obtain ⟨h1, h2, h3, h4⟩ := h
  -- the agent's clock since its boot = up to the stamp (cached, in whole seconds) + since the stamp
  have hs : now - a.bootAt = (c.stamp - a.bootAt) + (now - c.stamp) := by
    rw [Nat.add_comm, Nat.sub_add_sub_cancel h3 h2]
  obtain ⟨e1, e2⟩ := div10_split (c.stamp - a.bootAt) (now - c.stamp)
  rw [← hs, ← h4] at e1 e2
  refine ⟨_, ?_, e1, e2⟩
  simp only [sendWith, h1, inWindow_of a now _ e1 e2]

theorem timeInv_step (auth : Bool) (ctx : Bytes) (s : St) (e : Ev) (h : TimeInv s) (hne : e ≠ .reboot) :
    TimeInv (step auth ctx s e).1 ∧ (step auth ctx s e).1.agent = s.agent ∧
    ∀ w ∈ (step auth ctx s e).2, ∀ eid cid b t iw, w = .req eid cid b t iw → b = s.agent.boots ∧ iw = true := by
  obtain ⟨hboot, hcache⟩ := h
  obtain ⟨ha, _, hnow, hc, hw⟩ := step_cached auth ctx s e (Fresh s.agent s.now) (.discover s hboot) hcache
  refine ⟨?_, ha hne, ?_⟩
  · rw [TimeInv, ha hne]
    exact ⟨Nat.le_trans hboot hnow, fun c hd => (hc c hd).later hnow⟩
  · rintro w hw' eid cid b t iw rfl
    obtain h | ⟨c, hq, hweq⟩ := hw _ hw'
    · cases h
    · obtain ⟨t0, hsw, _⟩ := sendWith_accurate s.agent s.now ctx c hq
      simp only [hsw, Wire.req.injEq] at hweq
      exact ⟨hweq.2.2.1, hweq.2.2.2.2⟩

/-- While the agent does not reboot — any number of requests, any clock advances (tenths of
    seconds to days) — EVERY request on the wire carries the agent's current boots and an engine
    time within one second of the agent's: no attempt is ever outside the window, nothing is sent
    twice. -/
theorem C12_first_attempt_in_window (auth : Bool) (ctx : Bytes) (s : St) (evs : List Ev) (h : TimeInv s) (hn : noReboot evs) :
    ∀ w ∈ (run auth ctx s evs).2, ∀ eid cid b t iw, w = .req eid cid b t iw →
      b = s.agent.boots ∧ iw = true := by
  refine run_wires auth ctx (fun s' => TimeInv s' ∧ s'.agent = s.agent) _ evs s ⟨h, rfl⟩ ?_
  rintro s' ⟨hi, ha⟩ e he
  obtain ⟨h1, h2, h3⟩ := timeInv_step auth ctx s' e hi (hn e he)
  exact ⟨⟨h1, h2.trans ha⟩, ha ▸ h3⟩

theorem init_timeInv (eid : Bytes) (boots start : Nat) : TimeInv (init eid boots start) :=
  ⟨by simp [init], by intro c hc; simp [init] at hc⟩

/-- A discovery reply whose message id does not match the probe is refused with
    InvalidResponseId, one without bindings with SnmpError; nothing is cached in either case. -/
theorem C12_bad_reply_refused (probeId : Int) (now : Nat) (r : Reply) :
    (r.msgId ≠ probeId → acceptReply probeId now r = .error .invalidResponseId) ∧
    (r.msgId = probeId → r.varbinds = 0 → acceptReply probeId now r = .error .snmpError) ∧
    (r.msgId = probeId → r.varbinds ≠ 0 → acceptReply probeId now r = .ok ⟨r.engineId, r.boots, r.time, now⟩) :=
  ⟨fun h => by simp [acceptReply, h], fun h1 h2 => by simp [acceptReply, h1, h2],
    fun h1 h2 => by simp [acceptReply, h1, h2]⟩

/- non-vacuity: days pass between requests -/
example : (run true [] (init [1] 3 100) [.request, .advance 2008, .request, .advance 1000000, .request]).2 =
    [.probe, .req [1] [1] 3 10 true, .req [1] [1] 3 210 true, .req [1] [1] 3 100210 true] := by decide

/- the agent reboots between two requests: one stale attempt, a new discovery, success -/
example : (run true [] (init [1] 3 100) [.request, .reboot, .advance 50, .request]).2 =
    [.probe, .req [1] [1] 3 10 true, .req [1] [1] 3 15 false, .probe, .req [1] [1] 4 5 true] := by decide


/-- `Client._send` repeats a request after `NotInTimeWindow` ONCE: the handler calls `_send_once`, not
    itself, and there is no loop (shape of the code, generated) — what `Disco.request` and
    `C12_retry_once` are built on. -/
theorem C12_retry_shape : Snmp.Gen.retryOnceShape = true := by decide


/-- in `V3MPM.encode` the security engine id — for the timing data and for the request's security
    parameters and keys — is the DISCOVERED one, and the caller's engine id is only the context engine
    id, defaulting to the discovered one (shape of the code, generated): what `sendWith` and
    `C12_engine_ids` are built on (seeded C05-43 / C10-51 / C11-42 merged the two variables) -/
theorem C12_engine_id_shape : Snmp.Gen.securityEngineIsDiscovered = true := by decide

end Snmp.Props.C12
