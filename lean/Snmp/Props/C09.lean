/-
  C09 — USM: no unauthenticated, altered or downgraded response is ever accepted.
  Model: `Snmp.Usm.processIncoming`, for every MAC, localisation and privacy function.
-/
import Snmp.Lemmas.UsmLemmas
namespace Snmp.Props.C09
open Snmp Snmp.Usm

/-- With an authentication key in the credentials, whatever is accepted carried the auth flag,
    the credential's user name, a 12-octet digest field, and exactly the MAC — under the user's
    localised key — of the octets as received with the digest zeroed.  Nothing else is ever
    returned: no unauthenticated message (Reports included) produces a result. -/
theorem C09_accept_auth (cr : Crypto) (c : Creds) (pw : Bytes) (hc : c.auth = some pw) (im : InMsg)
    (s : Spec.ScopedPdu) (h : processIncoming cr c im = .ok s) :
    authFlag im.m = true ∧ im.m.user = c.user ∧
    ∃ z, im.zeroed = some z ∧ im.m.authParams = cr.mac (cr.loc pw im.m.engineId) z := by
  obtain ⟨hu, hv, -, -, hl⟩ := processIncoming_ok.mp h
  have haf : authFlag im.m = true := (checkLevel_ok.mp hl).1 (by simp [hc])
  refine ⟨haf, checkUser_ok.mp hu, ?_⟩
  rcases verifyAuth_ok.mp hv with hf | ⟨pw', z, hpw, hz, hmac⟩
  · rw [haf] at hf; cases hf
  · rw [hc] at hpw; cases hpw
    exact ⟨z, hz, hmac⟩

/-- With a privacy pass-phrase in the credentials, whatever is accepted carried the priv flag and
    an OCTET STRING payload that the plug-in decrypted under the privacy key localised to the
    engine id found in the message, with the boots / time / salt found in the message; the result
    is the scoped PDU parsed from that plaintext.  A plaintext scoped PDU is never accepted. -/
theorem C09_accept_priv (cr : Crypto) (c : Creds) (pp : Bytes) (hc : c.priv = some pp) (im : InMsg)
    (s : Spec.ScopedPdu) (h : processIncoming cr c im = .ok s) :
    privFlag im.m = true ∧ im.m.dataTag = 4 ∧
    ∃ plain sc rest, cr.dec (cr.loc pp im.m.engineId) im.m.engineId im.m.boots im.m.time im.m.privParams im.m.data = some plain ∧
      Spec.readTLV plain = some (48, sc, rest) ∧ Spec.readScoped sc = some s := by
  obtain ⟨-, -, hx, -, hl⟩ := processIncoming_ok.mp h
  have hpf : privFlag im.m = true := (checkLevel_ok.mp hl).2 (by simp [hc])
  by_cases ht : im.m.dataTag = 4
  · obtain ⟨-, pp', plain, sc, rest, hpp, hd, hr, hs⟩ := (extractScoped_cipher ht).mp hx
    rw [hc] at hpp; cases hpp
    exact ⟨hpf, ht, plain, sc, rest, hd, hr, hs⟩
  · rw [((extractScoped_plain ht).mp hx).1] at hpf; cases hpf

/-- An unauthenticated message can only raise: for a user with an authentication key, a message
    without the auth flag — a Report or anything else — never yields a result. -/
theorem C09_report_only_error (cr : Crypto) (c : Creds) (pw : Bytes) (hc : c.auth = some pw) (im : InMsg)
    (hf : authFlag im.m = false) : ∃ e, processIncoming cr c im = .error e := by
  cases h : processIncoming cr c im with
  | error e => exact ⟨e, rfl⟩
  | ok s =>
    have := (C09_accept_auth cr c pw hc im s h).1
    rw [hf] at this; cases this

/-- Reports about USM errors surface as errors even when they are authentic. -/
theorem C09_usm_report_is_error (cr : Crypto) (c : Creds) (im : InMsg) (s : Spec.ScopedPdu)
    (hx : extractScoped cr c im.m = .ok s) (he : hasUsmError s.pdu = true) :
    ∃ e, processIncoming cr c im = .error e := by
  cases h : processIncoming cr c im with
  | error e => exact ⟨e, rfl⟩
  | ok s' =>
    obtain ⟨-, -, hx', he', -⟩ := processIncoming_ok.mp h
    rw [hx] at hx'; cases hx'
    rw [he] at he'; cases he'

/-- Hence, under the unforgeability hypothesis — the only octet strings whose digest verifies
    under the user's key are the zero-digest forms of messages the authentic agent produced for
    this exchange — an accepted result is the result of an authentic message. -/
theorem C09_same_result (cr : Crypto) (c : Creds) (pw : Bytes) (hc : c.auth = some pw) (im : InMsg)
    (s : Spec.ScopedPdu) (authentic : List InMsg)
    (unforgeable : ∀ z, im.zeroed = some z → im.m.authParams = cr.mac (cr.loc pw im.m.engineId) z →
      ∃ a ∈ authentic, a.zeroed = some z ∧ a.m = im.m)
    (h : processIncoming cr c im = .ok s) :
    ∃ a ∈ authentic, processIncoming cr c a = .ok s := by
  rcases C09_accept_auth cr c pw hc im s h with ⟨_, _, z, hz, hm⟩
  obtain ⟨⟨am, az⟩, ha, haz, ham⟩ := unforgeable z hz hm
  -- the authentic message has the two fields of `im`, so it is `im`
  obtain rfl : am = im.m := ham
  obtain rfl : az = im.zeroed := haz.trans hz.symm
  exact ⟨_, ha, h⟩

/-- The same from the octets on: whatever `V3MPM.decode` (glue, `reset_raw_digest`,
    `process_incoming_message`, as modelled from the raw datagram) returns for a user with an
    authentication key was a message whose digest field — located in the datagram as received — is
    the MAC, under the user's localised key, of that datagram with exactly those twelve octets
    zeroed; the flags state authentication and the user name is the credential's. -/
theorem C09_wire_accept_auth (cr : Crypto) (c : Creds) (pw : Bytes) (hc : c.auth = some pw) (data : Bytes) (fuel : Nat)
    (s : Spec.ScopedPdu) (h : V3Glue.incoming cr c data fuel = .ok s) :
    ∃ m z, V3Glue.v3OfBytes data fuel = .ok m ∧ RawDigest.resetRawDigest data = .ok z ∧
      authFlag m = true ∧ m.user = c.user ∧ m.authParams = cr.mac (cr.loc pw m.engineId) z := by
  obtain ⟨m, hm, hp, -⟩ := incoming_ok.mp h
  obtain ⟨haf, hu, z, hz, hmac⟩ := C09_accept_auth cr c pw hc _ s hp
  exact ⟨m, z, hm, zeroed_eq.mp hz, haf, hu, hmac⟩

theorem C09_level_table : ∀ a p fa fp : Bool,
    Snmp.Gen.levelRefused a p fa fp = ((a && !fa) || (p && !fp)) := by decide

/-- **The security-level check, generated from `validate_security_level`.**  The sequence of
    `if … : raise UnsupportedSecurityLevel` statements of the source, translated by `tools/extract.py`
    into a Boolean function of the credentials' keys and the incoming flags, refuses exactly what the
    model's `checkLevel` refuses: a message without the auth flag for a user with an authentication
    key, or without the priv flag for a user with a privacy key — so neither flag can be cleared. -/
theorem C09_level_rule (c : Creds) (m : Spec.V3Msg) :
    checkLevel c m = if Snmp.Gen.levelRefused c.auth.isSome c.priv.isSome (authFlag m) (privFlag m) then .error .unsupportedLevel else .ok () := by
  rw [C09_level_table, checkLevel]

end Snmp.Props.C09
