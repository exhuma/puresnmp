/-
  C19 — registered trap listeners receive every matching notification, with its origin.
  Model: `Snmp.Trap`.
-/
import Snmp.Model.Trap
import Snmp.Gen.Facts
import Snmp.Lemmas.TrapWireLemmas
namespace Snmp.Props.C19
open Snmp Snmp.Trap

/-- a well-formed SNMPv2c notification for the listener's community -/
def matching (community : Bytes) (d : Dgram) : Prop :=
  ∃ m, d = .msg m ∧ versionOk m.version = true ∧ m.community = community

/-- Delivered exactly once, as a trap carrying the sender's address and exactly the bindings
    sent (uptime, trap OID, payload). -/
theorem C19_delivered_once (community : Bytes) (src : Source) (vbs : List VarBind) :
    deliveries community [(src, .msg ⟨1, community, 7, vbs⟩)] = [⟨some src, 7, vbs⟩] := by
  simp [deliveries, receive, versionOk]

/-- Datagrams with a different community, an unknown protocol version, or malformed content are
    never delivered. -/
theorem C19_dropped (community : Bytes) (src : Source) (d : Dgram) (h : ¬ matching community d) :
    deliveries community [(src, d)] = [] := by
  cases d with
  | malformed => simp [deliveries, receive]
  | msg m =>
    have : ¬ (versionOk m.version = true ∧ m.community = community) := fun hh => h ⟨m, rfl, hh.1, hh.2⟩
    simp [deliveries, receive, this]

/-- in particular: a foreign community is never delivered, whatever else the datagram holds -/
theorem C19_foreign_community (community : Bytes) (src : Source) (m : Msg) (h : m.community ≠ community) :
    deliveries community [(src, .msg m)] = [] :=
  C19_dropped community src (.msg m) (by rintro ⟨m', hm, _, hc⟩; cases hm; exact h hc)

/-- The listener is compositional: what is delivered for a sequence is the concatenation of what
    is delivered for its parts — no datagram, valid or not, influences the handling of another. -/
theorem C19_compositional (community : Bytes) (a b : List (Source × Dgram)) :
    deliveries community (a ++ b) = deliveries community a ++ deliveries community b := by
  simp [deliveries, List.filterMap_append]

/-- In particular a foreign or malformed datagram never stops later notifications. -/
theorem C19_later_unaffected (community : Bytes) (src : Source) (d : Dgram) (rest : List (Source × Dgram))
    (h : ¬ matching community d) :
    deliveries community ((src, d) :: rest) = deliveries community rest := by
  rw [← List.singleton_append, C19_compositional, C19_dropped community src d h]
  rfl

/-- Every matching notification of any sequence is delivered, in arrival order, each once: the
    deliveries are exactly the matching datagrams of the sequence. -/
theorem C19_exactly_matching (community : Bytes) (ds : List (Source × Dgram)) :
    deliveries community ds =
      (ds.filter fun p => match p.2 with
        | .msg m => decide (versionOk m.version = true ∧ m.community = community)
        | .malformed => false).filterMap fun p => match p.2 with
        | .msg m => some ⟨if m.tag = 7 then some p.1 else none, m.tag, m.vbs⟩
        | .malformed => none := by
  -- one datagram at a time: `receive` is "if it matches, this delivery"
  rw [deliveries, List.filterMap_filter]
  congr 1
  funext p
  unfold receive
  cases p.2 with
  | malformed => rfl
  | msg m => by_cases hm : versionOk m.version = true ∧ m.community = community <;> simp [hm]

/-- The pythonic view of a delivered trap: origin = sender address, uptime / trap OID = first /
    second binding pythonised, values = the remaining bindings keyed by dotted OID; all built-in. -/
theorem C19_trapinfo (src : Source) (up oid : VarBind) (rest : List VarBind) :
    trapInfo ⟨some src, 7, up :: oid :: rest⟩ =
      some (.tuple [.str src.address, Pyth.pythonize up.2, Pyth.pythonize oid.2,
        .dict (rest.map fun vb => (.str (Pyth.dotted vb.1), Pyth.pythonize vb.2))]) := rfl

example : deliveries [112] [(⟨"10.0.0.1", 5000⟩, .malformed), (⟨"10.0.0.2", 5001⟩, .msg ⟨1, [112], 7, []⟩),
    (⟨"10.0.0.3", 5002⟩, .msg ⟨1, [113], 7, []⟩)] = [⟨some ⟨"10.0.0.2", 5001⟩, 7, []⟩] := rfl

/-- **From the octets on.**  For EVERY SNMPv2c notification an agent writes — message wrapper,
    version 1, the listener's community, a Trap PDU with any bindings, every TLV in its own admissible
    length form, every value TLV one the specification reads as intended (`Glue.WritesMsg e m "Trap"`) —
    the per-datagram decoder of `register_trap_callback` (forced sequence readout, version → model,
    x690 mirror, wrapper glue, community / version check, bindings taken apart) delivers exactly one
    Trap carrying the sender's address and exactly the bindings sent. -/
theorem C19_from_wire (e : Ber.Enc) (m : Ops.RespMsg) (h : Glue.WritesMsg e m "Trap") (community : Bytes) (src : Source)
    (hv : m.version = 1) (hc : m.community = community) (hes : m.pdu.errorStatus = 0)
    (fuel depth : Nat) (hw : e.width ≤ fuel) (hd : e.depth ≤ depth) :
    receiveWire community src e.bytes fuel depth = some ⟨some src, 7, m.pdu.varbinds⟩ := by
  have htag : pduTagOf "Trap" = 7 := by decide
  rw [receiveWire_writes h community src fuel depth hw hd, htag]
  simp [hv, Ops.mpmDecode, hc, Ops.forcePdu, hes, bind, Except.bind]

/-- … and a foreign community is dropped, whatever else the datagram holds -/
theorem C19_from_wire_foreign (e : Ber.Enc) (m : Ops.RespMsg) (cls : String) (h : Glue.WritesMsg e m cls) (community : Bytes)
    (src : Source) (hc : m.community ≠ community) (fuel depth : Nat) (hw : e.width ≤ fuel) (hd : e.depth ≤ depth) :
    receiveWire community src e.bytes fuel depth = none := by
  rw [receiveWire_writes h community src fuel depth hw hd]
  -- both community-based models compare the community; v1 forces the PDU first, which can only fail earlier
  by_cases h1 : m.version = 1
  · simp [h1, Ops.mpmDecode, hc, bind, Except.bind]
  · by_cases h0 : m.version = 0
    · simp only [h0, ↓reduceIte, Ops.mpmDecode, bind, Except.bind]
      cases Ops.forcePdu m.pdu <;> simp [hc]
    · simp [h1, h0]

/-- the per-datagram decoder of `register_trap_callback` creates its message-processing model and its
    local configuration inside the closure and declares nothing `nonlocal` (shape of the code,
    generated) — why the listener is a `filterMap` of a stateless decision -/
theorem C19_stateless_shape : Snmp.Gen.trapDecoderStateless = true := by decide

end Snmp.Props.C19
