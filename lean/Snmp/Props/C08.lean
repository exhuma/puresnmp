/-
  C08 — agent error-status always surfaces as the documented exception, never as data.
  Property theorems over `Snmp.Ops` and the *generated* status→class table.
-/
import Snmp.Model.Ops
import Snmp.Props.C07
namespace Snmp.Props.C08
open Snmp Snmp.Ops

/-- The generated table is exactly the documented one: RFC 3416 statuses 1..18 under
    puresnmp's documented class names. -/
theorem C08_table :
    Gen.errorTable = [(1, "TooBig"), (2, "NoSuchOID"), (3, "BadValue"), (4, "ReadOnly"), (5, "GenErr"),
      (6, "NoAccess"), (7, "WrongType"), (8, "WrongLength"), (9, "WrongEncoding"), (10, "WrongValue"),
      (11, "NoCreation"), (12, "InconsistentValue"), (13, "ResourceUnavailable"), (14, "CommitFailed"),
      (15, "UndoFailed"), (16, "AuthorizationError"), (17, "NotWritable"), (18, "InconsistentName")] :=
  rfl

/-- Statuses outside 1..18 (19, 255, negative, …) get the generic class carrying the raw status. -/
theorem C08_generic_class (status : Int) (h : status < 1 ∨ 18 < status) :
    errorClass status = "ErrorResponse" := by
  -- no key of the table is outside 1..18, so the lookup finds nothing
  have keys : ∀ e ∈ Gen.errorTable, 1 ≤ e.1 ∧ e.1 ≤ 18 := by decide
  have : Gen.errorTable.find? (fun e => e.1 == status) = none :=
    List.find?_eq_none.mpr fun e he heq => by
      have := keys e he
      rw [beq_iff_eq] at heq
      omega
  rw [errorClass, this]

/-- The offending OID is the binding selected by error-index when it selects one (1-based),
    and the empty OID for index 0, negative indices and indices beyond the list — including
    the empty binding list of `tooBig`. -/
theorem C08_offending (p : PduResp) :
    (∀ vb, 1 ≤ p.errorIndex → p.varbinds[(p.errorIndex - 1).toNat]? = some vb →
        errorOf p = .errorResponse p.errorStatus (errorClass p.errorStatus) vb.1) ∧
    ((p.errorIndex < 1 ∨ (p.varbinds.length : Int) < p.errorIndex) →
        errorOf p = .errorResponse p.errorStatus (errorClass p.errorStatus) []) := by
  constructor
  · intro vb h1 hvb
    unfold errorOf
    have hlen : (p.errorIndex - 1).toNat < p.varbinds.length := (List.getElem?_eq_some_iff.mp hvb).1
    have : 1 ≤ p.errorIndex ∧ p.errorIndex ≤ p.varbinds.length := by omega
    simp only [if_pos this, hvb]
  · intro h
    unfold errorOf
    have : ¬ (1 ≤ p.errorIndex ∧ p.errorIndex ≤ p.varbinds.length) := by omega
    simp [this]

/-- The rule that picks the offending binding is the one in the source: the condition under which
    `PDU.decode_raw` assigns `varbinds[error_index.value - 1].oid` (translated from the working tree
    on every run, `Gen.errorIndexInRange`) is exactly the model's `1 ≤ error-index ≤ #bindings`. -/
theorem C08_index_rule (p : PduResp) :
    Gen.errorIndexInRange p.errorIndex p.varbinds.length = true ↔
      (1 ≤ p.errorIndex ∧ p.errorIndex ≤ p.varbinds.length) := by
  simp [Gen.errorIndexInRange]

/-- A non-zero error-status never yields data, for every protocol version, whatever the other
    fields (request id, community, version, bindings) are. -/
theorem C08_never_data (proto : Proto) (rid : Int) (m : RespMsg) (p : PduResp)
    (hs : m.pdu.errorStatus ≠ 0) : recv proto rid (.ok m) ≠ .ok p :=
  fun h => hs (recv_msg_ok_iff.mp h).2.1

/-- … and it surfaces as exactly the documented exception (for v2c provided the wrapper's
    version and community are the expected ones; for v1 and v3 unconditionally, the PDU being
    forced before any other check). -/
theorem C08_error_surfaces (rid : Int) (m : RespMsg) (community : Bytes) (hs : m.pdu.errorStatus ≠ 0) :
    recv (.v1 community) rid (.ok m) = .error (errorOf m.pdu) ∧
    recv .v3 rid (.ok m) = .error (errorOf m.pdu) ∧
    (m.version = 1 → m.community = community →
      recv (.v2c community) rid (.ok m) = .error (errorOf m.pdu)) := by
  refine ⟨?_, ?_, fun hv hc => ?_⟩
  · simp [recv, mpmDecode, forcePdu, bind, Except.bind, hs]
  · rw [recv_msg_of_wrapper .v3 rid m trivial, if_pos hs]
  · rw [recv_msg_of_wrapper (.v2c community) rid m ⟨hv, hc⟩, if_pos hs]

/-- Every operation inherits it: the call raises that exception and returns nothing. -/
theorem C08_every_operation (proto : Proto) (rid : Int) (m : RespMsg) (e : Err)
    (hr : recv proto rid (.ok m) = .error e)
    (oids : List Oid) (oid : Oid) (vbs : List VarBind) (v : Val) (scalars reps : List Oid) (maxList : Int) :
    (multiget proto oids).result rid (.ok m) = .error e ∧
    (Ops.get proto oid).result rid (.ok m) = .error e ∧
    (multigetnext proto oids).result rid (.ok m) = .error e ∧
    (getnext proto oid).result rid (.ok m) = .error e ∧
    (multiset proto vbs).result rid (.ok m) = .error e ∧
    (Ops.set proto oid v).result rid (.ok m) = .error e ∧
    (bulkget proto scalars reps maxList).result rid (.ok m) = .error e := by
  -- every operation is `recv … >>= f`, or that followed by one more step, and an error passes through `>>=`
  have pass {α β} {x : Except Err α} (hx : x = .error e) (g : α → Except Err β) : (x >>= g) = .error e := by rw [hx]; rfl
  exact ⟨pass hr _, pass (pass hr _) _, pass hr _, pass (pass hr _) _, pass hr _, pass (pass hr _) _, pass (pass hr _) _⟩

-- non-vacuity
example : errorOf ⟨1, 2, 3, [([1], .null), ([2], .null)]⟩ = .errorResponse 2 "NoSuchOID" [] := by
  simp [errorOf, errorClass, Gen.errorTable]
example : errorOf ⟨1, 5, 2, [([1], .null), ([2], .null)]⟩ = .errorResponse 5 "GenErr" [2] := by
  simp [errorOf, errorClass, Gen.errorTable]

/-- **From the octets on.**  Whatever community response message an agent writes (`Glue.WritesMsg`: any
    PDU class, bindings and length forms) with the expected version and community and a NON-ZERO
    error-status: every operation of the client raises exactly `errorOf` of the PDU the agent wrote —
    the documented class for the status, the offending OID selected by error-index — and returns nothing. -/
theorem C08_from_wire (e : Ber.Enc) (m : RespMsg) (cls : String) (hw : Glue.WritesMsg e m cls) (community : Bytes) (rid : Int)
    (hver : m.version = 1) (hcom : m.community = community) (hes : m.pdu.errorStatus ≠ 0)
    (fuel depth : Nat) (hwd : e.width ≤ fuel) (hd : e.depth ≤ depth)
    (oids : List Oid) (oid : Oid) (vbs : List VarBind) (v : Val) (scalars reps : List Oid) (maxList : Int) :
    (multiget (.v2c community) oids).result rid (C06.fromWire e.bytes fuel depth) = .error (errorOf m.pdu) ∧
    (Ops.get (.v2c community) oid).result rid (C06.fromWire e.bytes fuel depth) = .error (errorOf m.pdu) ∧
    (multigetnext (.v2c community) oids).result rid (C06.fromWire e.bytes fuel depth) = .error (errorOf m.pdu) ∧
    (getnext (.v2c community) oid).result rid (C06.fromWire e.bytes fuel depth) = .error (errorOf m.pdu) ∧
    (multiset (.v2c community) vbs).result rid (C06.fromWire e.bytes fuel depth) = .error (errorOf m.pdu) ∧
    (Ops.set (.v2c community) oid v).result rid (C06.fromWire e.bytes fuel depth) = .error (errorOf m.pdu) ∧
    (bulkget (.v2c community) scalars reps maxList).result rid (C06.fromWire e.bytes fuel depth) = .error (errorOf m.pdu) := by
  rw [C06.fromWire_writes hw fuel depth hwd hd]
  exact C08_every_operation (.v2c community) rid m _ ((C08_error_surfaces rid m community hes).2.2 hver hcom)
    oids oid vbs v scalars reps maxList

end Snmp.Props.C08
