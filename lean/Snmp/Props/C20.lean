/-
  C20 — no datagram, however malformed, can hang the client or exhaust memory.
  Model: the index-based x690 mirror `Snmp.Ber` with an iteration budget for the loop of
  `Sequence.decode_raw`.  The full statement is FALSE for the dependency as it is
  (`C20_loop_counterexample`: the real loop restarts at offset 1 forever on `30 04 01 00 04 80`);
  what is proved is the bound under a decidable guard on the datagram (`C20_cost_partial`).
  Partial by nature: CPU time, big-integer cost and memory are runtime facts the model only
  bounds through iteration counts.
-/
import Snmp.Model.Ber
import Snmp.Model.UsmParams
namespace Snmp.Props.C20
open Snmp Snmp.Ber

/-- the only way `get_value_slice` fails to advance: indefinite length octet with no `00 00` behind -/
def BadHeader (data : Bytes) (pos : Nat) : Prop := data[pos + 1]? = some 128 ∧ find00 data pos = none

/-- the decidable guard: no position of the datagram is such a header -/
def Guard (data : Bytes) : Prop := ∀ pos, ¬ BadHeader data pos

theorem find00_go_ge (bs : Bytes) (i e : Nat) (h : find00.go bs i = some e) : i ≤ e := by
  induction bs, i using find00.go.induct with
  | case1 rest i => exact Nat.le_of_eq (Option.some.inj h)
  | case2 a rest i hne ih =>
    rw [find00.go] at h
    · exact Nat.le_of_succ_le (ih h)
    · exact hne
  | case3 i => cases h

/-- the computation did not stop for lack of fuel, and what it returned satisfies `P` -/
def Ends {α : Type} (P : α → Prop) : Except BErr α → Prop
  | .error e => e ≠ .outOfFuel
  | .ok a => P a

theorem Ends.error {α : Type} {P : α → Prop} {e : BErr} (h : e ≠ .outOfFuel) : Ends P (.error e) := h

theorem Ends.ok {α : Type} {P : α → Prop} {a : α} (h : P a) : Ends P (.ok a) := h

theorem Ends.bind {α β : Type} {P : α → Prop} {Q : β → Prop} {x : Except BErr α} {f : α → Except BErr β}
    (hx : Ends P x) (hf : ∀ a, P a → Ends Q (f a)) : Ends Q (x >>= f) := by
  cases x with
  | error e => exact hx
  | ok a => exact hf a hx

theorem Ends.not_fuel {α : Type} {P : α → Prop} {x : Except BErr α} (h : Ends P x) : x ≠ .error .outOfFuel := by
  intro hx
  rw [hx] at h
  exact h rfl

/-- `decode_length` does not loop; the indefinite form is what it makes of the octet 0x80 -/
theorem decodeLength_ends (data : Bytes) (i : Nat) :
    Ends (fun li => li = .indefinite → data[i]? = some 128) (decodeLength data i) := by
  unfold decodeLength
  cases data[i]? with
  | none => exact .error nofun
  | some d0 =>
    -- of the four outcomes only the third is `.indefinite`, and `d0 = 128` chooses it
    by_cases h128 : d0 = 128
    · subst h128; exact fun _ => rfl
    · simp only [h128, ↓reduceIte]
      split
      · exact .error nofun
      · split
        · exact nofun
        · exact nofun

/-- `get_value_slice` does not loop, and where it locates a value it moves the cursor forward or sits
    on a bad header -/
theorem getValueSlice_ends (data : Bytes) (pos : Nat) :
    Ends (fun r => pos < r.2 ∨ BadHeader data pos) (getValueSlice data pos) := by
  refine (decodeLength_ends data (pos + 1)).bind fun li hli => ?_
  cases li with
  | definite len off =>
    simp only
    split
    · exact .error nofun
    · exact .inl (by omega)
  | indefinite =>
    cases hf : find00 data pos with
    | some e => exact .inl (Nat.lt_of_le_of_lt (find00_go_ge _ _ e hf) (by omega))
    | none => exact .inr ⟨hli rfl, hf⟩

theorem decodeAt_ends (data : Bytes) (pos : Nat) :
    Ends (fun r => pos < data.length ∧ (pos < r.2 ∨ BadHeader data pos)) (decodeAt data pos) := by
  unfold decodeAt
  cases h : data[pos]? with
  | none => exact .error nofun
  | some t =>
    simp only
    split
    · exact .error nofun
    · refine (getValueSlice_ends data pos).bind fun r hr => ?_
      split
      · exact .error nofun
      · exact .ok ⟨(List.getElem?_eq_some_iff.mp h).1, hr⟩

/-- the loop of `Sequence.decode_raw`, started at `pos` with `k` octets of the datagram still
    ahead, never exhausts a budget of `k + 1` iterations on a guarded datagram -/
theorem loop_terminates (data : Bytes) (hg : Guard data) (stop : Int) :
    ∀ (k pos : Nat) (acc : List Node), data.length ≤ pos + k →
      Ends (fun _ => True) (seqItems.loop data stop (k + 1) pos acc) := by
  intro k
  induction k with
  | zero =>
    intro pos acc hk
    unfold seqItems.loop
    split
    · exact (decodeAt_ends data pos).bind fun r hr => absurd hr.1 (Nat.not_lt.mpr hk)
    · exact .ok trivial
  | succ k ih =>
    intro pos acc hk
    unfold seqItems.loop
    split
    · refine (decodeAt_ends data pos).bind fun r hr => ?_
      rcases hr.2 with hp | hb
      · exact ih r.2 (r.1 :: acc) (by omega)
      · exact absurd hb (hg pos)
    · exact .ok trivial

/-- **Bound under the guard.**  For every datagram none of whose positions is an indefinite
    length octet without a later `00 00`, reading any sequence found in it takes at most
    `|datagram| + 1` iterations of the decode loop (each creating one lazy node): it ends with the
    items or with an exception, never by running on. -/
theorem C20_cost_partial (data : Bytes) (hg : Guard data) (sl : Slice) :
    seqItems data sl (data.length + 1) ≠ .error .outOfFuel := by
  refine Ends.not_fuel (P := fun _ => True) ?_
  unfold seqItems
  split
  · exact .ok trivial
  · refine (decodeAt_ends data sl.start).bind fun r _ => ?_
    exact loop_terminates data hg _ data.length r.2 [r.1] (by omega)

/-- the full statement: every datagram is processed within a linear iteration budget -/
def C20_cost_statement : Prop := ∀ (data : Bytes) (sl : Slice), seqItems data sl (data.length + 1) ≠ .error .outOfFuel

/-- It is false: on `30 04 01 00 04 80` the loop over the outer sequence's content comes back to
    offset 1 again and again — the budget is exhausted for this datagram (and, the state
    recurring, for any budget).  Known finding in the x690 dependency. -/
theorem C20_loop_counterexample : ¬ C20_cost_statement := by
  intro h
  exact h [48, 4, 1, 0, 4, 128] ⟨2, 6⟩ rfl

/-- the state of the loop recurs: two iterations after offset 1 the cursor is at offset 1 again -/
theorem C20_loop_recurs :
    (decodeAt [48, 4, 1, 0, 4, 128] 1).toOption.map (·.2) = some 4 ∧
    (decodeAt [48, 4, 1, 0, 4, 128] 4).toOption.map (·.2) = some 1 := by decide

/-- processing a response touches only two slots of the message-processing instance: the
    security model (created once, identical every time) and the discovery cache, which is
    *forgotten* when the security model raises (the next request runs the discovery again) —
    so an exception raised for one datagram leaves the client's configuration and credentials as
    they were and the client usable for the next request (generated write footprint of
    `V3MPM.decode`). -/
theorem C20_usable_after_error :
    (Gen.selfWrites.filter (fun w => w.1 == "V3MPM" && w.2.1 == "decode")).map (·.2.2.1) = ["disco", "security_model"] := by
  decide

/-- executable form of the guard -/
def guardB (data : Bytes) : Bool :=
  (List.range data.length).all fun pos => !(data[pos + 1]? == some 128 && (find00 data pos).isNone)

theorem guard_of_guardB (data : Bytes) (h : guardB data = true) : Guard data := by
  rintro pos ⟨h1, h2⟩
  have hlt : pos < data.length := Nat.lt_of_succ_lt (List.getElem?_eq_some_iff.mp h1).1
  unfold guardB at h
  rw [List.all_eq_true] at h
  have := h pos (List.mem_range.mpr hlt)
  simp [h1, h2] at this

/- non-vacuity: an ordinary response satisfies the guard -/
example : Guard [48, 6, 2, 1, 5, 4, 1, 97] := guard_of_guardB _ (by decide)

theorem map_eq_of_zip_all {α β : Type} [BEq β] [LawfulBEq β] (f : α → β) : ∀ (xs : List α) (ys : List β),
    xs.length = ys.length → ((xs.zip ys).all fun p => f p.1 == p.2) = true → xs.map f = ys
  | [], [], _, _ => rfl
  | x :: xs, y :: ys, hl, ha => by
    simp only [List.zip_cons_cons, List.all_cons, Bool.and_eq_true, beq_iff_eq] at ha
    rw [List.map_cons, ha.1, map_eq_of_zip_all f xs ys (Nat.succ.inj hl) ha.2]

/-- What enters the discovery cache (and what every incoming message is authenticated with) was
    read from items of exactly the universal classes OCTET STRING / INTEGER: a parameter block in
    which an item carries an SNMP application tag — TimeTicks (0x43) for the boots, whose value
    would be handed on as a `timedelta`; Counter, Gauge, Opaque … — is refused as malformed and
    nothing is cached (generated: `type(item) is cls` in `from_snmp_type`). -/
theorem C20_disco_params_typed (data : Bytes) (fuel : Nat) (p : UsmParams.Params)
    (h : UsmParams.ofBytes data fuel = .ok p) :
    UsmParams.acceptedClasses data fuel =
      some ["OctetString", "Integer", "Integer", "OctetString", "OctetString", "OctetString"] := by
  unfold UsmParams.ofBytes at h
  unfold UsmParams.acceptedClasses
  cases h1 : decodeAt data 0 with
  | error e => simp [UsmParams.lift, h1] at h
  | ok r =>
    obtain ⟨n, nx⟩ := r
    simp only [UsmParams.lift, h1] at h
    split at h
    · cases h
    · cases h2 : seqItems data n.slice fuel with
      | error e => simp [h2] at h
      | ok items =>
        simp only [h2] at h ⊢
        split at h
        · cases h
        · rename_i hc
          -- the check is the exact one (`type(item) is cls`), so the classes found are the classes expected
          simp only [Bool.or_eq_true, bne_iff_ne, ne_eq, Bool.not_eq_eq_eq_not, Bool.not_true, not_or, Decidable.not_not,
            Bool.not_eq_false, UsmParams.classOk, Gen.usmParamExact, if_true] at hc
          exact congrArg some (map_eq_of_zip_all (fun n : Node => n.entry.name) items _ hc.1 hc.2)

/-- non-vacuity: the parameter block of an ordinary discovery reply is accepted; with the boots
    tagged TimeTicks it is refused -/
example : UsmParams.ofBytes [48, 16, 4, 2, 128, 0, 2, 1, 3, 2, 1, 9, 4, 0, 4, 0, 4, 0] 32
      = .ok ⟨[128, 0], 3, 9, [], [], []⟩
    ∧ UsmParams.ofBytes [48, 16, 4, 2, 128, 0, 67, 1, 3, 2, 1, 9, 4, 0, 4, 0, 4, 0] 32 = .error .malformed :=
  ⟨rfl, rfl⟩

end Snmp.Props.C20
