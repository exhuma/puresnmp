/-
  C17 — SNMP application types keep their numeric and conversion semantics.
  Property theorems only.  The constructor bodies are the ones *generated* from the working
  tree (`Snmp.Gen.counter32Init`, `counter64Init`, `ticksOfMicros`).
-/
import Snmp.Gen.Facts
import Snmp.Model.Types
namespace Snmp.Props.C17
open Snmp Snmp.Gen Snmp.Types

private theorem land_mask (v : Int) (k : Nat) (hv : 0 ≤ v) :
    Py.land v (((2 : Nat) ^ k - 1 : Nat) : Int) = v % ((2 : Nat) ^ k : Nat) := by
  obtain ⟨n, rfl⟩ := Int.eq_ofNat_of_zero_le hv
  have := Py.land_mask_nonneg n k
  simpa using this

/-- clamp below, wrap above -/
private def clampWrap (M v : Int) : Int := if v ≤ 0 then 0 else v % M

private theorem init_eq (k : Nat) (v : Int) :
    (let x := Py.land v (if v ≥ ((2 : Nat) ^ k : Nat) then (((2 : Nat) ^ k - 1 : Nat) : Int) else v)
     if x ≤ 0 then 0 else x) = clampWrap ((2 : Nat) ^ k : Nat) v := by
  have hpos : (0 : Int) < ((2 : Nat) ^ k : Nat) := Int.natCast_pos.mpr (Nat.two_pow_pos k)
  unfold clampWrap
  by_cases h : v ≥ ((2 : Nat) ^ k : Nat)
  · have hv : 0 < v := Int.lt_of_lt_of_le hpos h
    simp only [if_pos h, if_neg (Int.not_le.mpr hv), land_mask v k (Int.le_of_lt hv)]
    split
    · exact Int.le_antisymm (Int.emod_nonneg v (Int.ne_of_gt hpos)) ‹_›
    · rfl
  · simp only [if_neg h, Py.land_self]
    split
    · rfl
    · exact (Int.emod_eq_of_lt (Int.le_of_lt (Int.not_le.mp ‹_›)) (Int.not_le.mp h)).symm

private theorem clampWrap_spec (M v : Int) (hM : 0 < M) :
    0 ≤ clampWrap M v ∧ clampWrap M v < M ∧ (v ≤ 0 → clampWrap M v = 0) ∧
    (0 ≤ v → v < M → clampWrap M v = v) ∧ (M ≤ v → clampWrap M v = v % M) := by
  have h1 := Int.emod_nonneg v (Int.ne_of_gt hM)
  have h2 := Int.emod_lt_of_pos v hM
  unfold clampWrap
  refine ⟨?_, ?_, fun h => if_pos h, fun h0 hlt => ?_, fun h => if_neg (by omega)⟩
  · split <;> omega
  · split <;> omega
  · split
    · omega
    · exact Int.emod_eq_of_lt h0 hlt

/-- Counter32 built from *any* integer: in range, clamped at 0, identity in range, wrapping
    modulo 2^32 above. -/
theorem C17_counter32 (v : Int) :
    0 ≤ counter32Init v ∧ counter32Init v < 4294967296 ∧
    (v ≤ 0 → counter32Init v = 0) ∧
    (0 ≤ v → v < 4294967296 → counter32Init v = v) ∧
    (4294967296 ≤ v → counter32Init v = v % 4294967296) := by
  rw [show counter32Init v = clampWrap 4294967296 v from init_eq 32 v]
  exact clampWrap_spec 4294967296 v (by decide)

/-- Counter64, same statement modulo 2^64. -/
theorem C17_counter64 (v : Int) :
    0 ≤ counter64Init v ∧ counter64Init v < 18446744073709551616 ∧
    (v ≤ 0 → counter64Init v = 0) ∧
    (0 ≤ v → v < 18446744073709551616 → counter64Init v = v) ∧
    (18446744073709551616 ≤ v → counter64Init v = v % 18446744073709551616) := by
  rw [show counter64Init v = clampWrap 18446744073709551616 v from init_eq 64 v]
  exact clampWrap_spec 18446744073709551616 v (by decide)

/-- ticks → timedelta → ticks loses and gains nothing, for every tick count. -/
theorem C17_ticks_roundtrip (t : Int) : ticksOfMicros (ticksToMicros t) = t := by
  unfold ticksOfMicros ticksToMicros; omega

/-- timedelta → ticks → timedelta rounds down to a whole hundredth of a second. -/
theorem C17_ticks_floor (us : Int) :
    ticksToMicros (ticksOfMicros us) ≤ us ∧ us < ticksToMicros (ticksOfMicros us) + 10000 := by
  unfold ticksOfMicros ticksToMicros; omega

private theorem digit (x d : Nat) (h : d < 256) : (x * 256 + d) % 256 = d ∧ (x * 256 + d) / 256 = x :=
  ⟨by rw [Nat.mul_comm, Nat.mul_add_mod, Nat.mod_eq_of_lt h],
   by rw [Nat.mul_comm, Nat.mul_add_div (by decide), Nat.div_eq_of_lt h, Nat.add_zero]⟩

private theorem div_65536 (n : Nat) : n / 65536 = n / 256 / 256 := by rw [Nat.div_div_eq_div_mul]
private theorem div_16777216 (n : Nat) : n / 16777216 = n / 256 / 256 / 256 := by
  rw [Nat.div_div_eq_div_mul, Nat.div_div_eq_div_mul]

/-- IPv4Address → 4 octets → IPv4Address, all 2^32 addresses. -/
theorem C17_ipv4_roundtrip (n : Nat) (h : n < 4294967296) : fromBE (ipToBytes n) = n := by
  simp only [fromBE, ipToBytes, List.foldl_cons, List.foldl_nil]
  -- the leading digit is below 256 as it stands; then peel the digits off `n` one division at a time
  rw [Nat.mod_eq_of_lt (Nat.div_lt_of_lt_mul h : n / 16777216 < 256), div_65536, div_16777216, Nat.zero_mul, Nat.zero_add,
    Nat.div_add_mod', Nat.div_add_mod', Nat.div_add_mod']

/-- 4 octets → IPv4Address → 4 octets. -/
theorem C17_ipv4_bytes (a b c d : Nat) (ha : a < 256) (hb : b < 256) (hc : c < 256) (hd : d < 256) :
    ipToBytes (fromBE [a, b, c, d]) = [a, b, c, d] ∧ fromBE [a, b, c, d] < 4294967296 := by
  simp only [fromBE, ipToBytes, List.foldl_cons, List.foldl_nil, Nat.zero_mul, Nat.zero_add]
  rw [div_65536, div_16777216, (digit _ d hd).1, (digit _ d hd).2, (digit _ c hc).1, (digit _ c hc).2, (digit _ b hb).1, (digit _ b hb).2,
    Nat.mod_eq_of_lt ha]
  exact ⟨rfl, by omega⟩

-- non-vacuity / sanity on concrete points
example : counter32Init 4294967338 = 42 := by decide
example : counter32Init (-5) = 0 := by decide
example : counter64Init 36893488147419103274 = 42 := by decide
example : ticksOfMicros (ticksToMicros 29) = 29 := by decide

end Snmp.Props.C17
